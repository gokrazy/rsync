import RsyncModel.Acl
import RsyncModel.Atomic
import RsyncModel.AtomicThm
import RsyncModel.BExpr
import RsyncModel.Checksum
import RsyncModel.Daemon
import RsyncModel.Delete
import RsyncModel.DeleteThm
import RsyncModel.Delta.AlgA
import RsyncModel.Delta.AlgB
import RsyncModel.Delta.Exact
import RsyncModel.Delta.Go
import RsyncModel.Delta.GoThm
import RsyncModel.Delta.Honest
import RsyncModel.Delta.HonestHead
import RsyncModel.Delta.Roll
import RsyncModel.Delta.Spec
import RsyncModel.Driver.AclOps
import RsyncModel.Driver.DaemonOps
import RsyncModel.Driver.DeleteOps
import RsyncModel.Driver.DeltaOps
import RsyncModel.Driver.FlistOps
import RsyncModel.Driver.GenOps
import RsyncModel.Driver.MuxOps
import RsyncModel.Driver.OptsOps
import RsyncModel.Driver.RootOps
import RsyncModel.Driver.SshOps
import RsyncModel.Driver.Util
import RsyncModel.Driver.WireOps
import RsyncModel.Filter
import RsyncModel.Flist
import RsyncModel.FlistCondsSpec
import RsyncModel.FlistThm
import RsyncModel.FlistTie
import RsyncModel.FsSitesSpec
import RsyncModel.Gen.ConnUse
import RsyncModel.Gen.Consts
import RsyncModel.Gen.ExitSites
import RsyncModel.Gen.FlistConds
import RsyncModel.Gen.FsSites
import RsyncModel.Gen.OptTable
import RsyncModel.Gen.Pure
import RsyncModel.Gen.RecvOrder
import RsyncModel.Gen.Ssh
import RsyncModel.Generator
import RsyncModel.GeneratorThm
import RsyncModel.GoSem
import RsyncModel.MD4
import RsyncModel.MapFile
import RsyncModel.Mux
import RsyncModel.MuxThm
import RsyncModel.Opts
import RsyncModel.OptsDaemon
import RsyncModel.OptsLex
import RsyncModel.OptsRun
import RsyncModel.OptsSpec
import RsyncModel.PathClean
import RsyncModel.PeerInput
import RsyncModel.Properties.C01
import RsyncModel.Properties.C02
import RsyncModel.Properties.C03
import RsyncModel.Properties.C04
import RsyncModel.Properties.C05
import RsyncModel.Properties.C06
import RsyncModel.Properties.C07
import RsyncModel.Properties.C08
import RsyncModel.Properties.C09
import RsyncModel.Properties.C10
import RsyncModel.Properties.C11
import RsyncModel.Properties.C12
import RsyncModel.Properties.C13
import RsyncModel.Properties.C14
import RsyncModel.Properties.C15
import RsyncModel.Properties.C16
import RsyncModel.Properties.C17
import RsyncModel.Properties.C18
import RsyncModel.Properties.C19
import RsyncModel.Properties.C20
import RsyncModel.Proto
import RsyncModel.ProtoFail
import RsyncModel.PureTie
import RsyncModel.RecvData
import RsyncModel.RecvOrderSpec
import RsyncModel.RecvThm
import RsyncModel.RecvTie
import RsyncModel.RootFs
import RsyncModel.RoundTrip
import RsyncModel.RoundTripHonest
import RsyncModel.SendFile
import RsyncModel.Session
import RsyncModel.Ssh
import RsyncModel.SshSpec
import RsyncModel.SumsTie
import RsyncModel.TagTable
import RsyncModel.Utf8
import RsyncModel.Walk
import RsyncModel.WireInt
