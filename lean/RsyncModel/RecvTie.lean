import RsyncModel.PureTie
import RsyncModel.RecvThm
import RsyncModel.MapFile
/-! # The receiver's token loop as the source has it (receiver.go `receiveData`, token.go `recvToken`)

`Gen.Pure.recvToken` and `Gen.Pure.recvLoop` are regenerated from /repo on every run; the connection
is a byte list that is consumed, the pending file a byte list that grows, the basis file a byte list
read at offsets. Proved: the source's loop computes exactly the model's `Recv.recvTokens` — same
content written, same unread rest, an error exactly where the model has one, never a panic, and the
loop ends within `len(input)+1` iterations — for every input (well-formed or not), every validated
header and every basis. -/
namespace RecvTie
open Go Recv Wire Delta

theorem recvToken_tied (inp : Bytes) :
    Gen.Pure.recvToken inp =
      match decI32 inp with
      | none => .err
      | some (tok, rest) =>
        if tok ≤ 0 then .ok (tok, [], rest)
        else if rest.length < tok.toInt.toNat then .err
        else .ok (tok, rest.take tok.toInt.toNat, rest.drop tok.toInt.toNat) := by
  unfold Gen.Pure.recvToken Go.readI32
  cases decI32 inp with
  | none => rfl
  | some r =>
    obtain ⟨tok, rest⟩ := r
    simp only [Go.bind_ok, decide_eq_true_eq]
    split
    · rfl
    · rename_i h0
      have hpos : 0 ≤ tok.toInt := by simp [Int32.le_iff_toInt_le] at h0; omega
      simp only [Go.make_ok hpos, Go.bind_ok, List.length_replicate, Go.readFull_natCast]
      split <;> rfl


theorem readAt_eq_readBlock (hd : Head) (b : Bytes) (idx : Nat) :
    Go.readAt b ((idx * hd.bl : Nat) : Int) ((blockLen hd idx : Nat) : Int) =
      match readBlock hd b idx with
      | none => .err
      | some d => .ok d := by
  rw [Go.readAt_natCast, readBlock]
  split
  · rfl
  · split <;> rfl

theorem blockLen_lt (h : PureTie.Head32) (hok : h.ok) (cs idx : Nat) : blockLen (h.toHead cs) idx < 2147483648 := by
  obtain ⟨_, hb, hr⟩ := hok
  have := h.bl.toInt_lt; have := h.rem.toInt_lt
  unfold blockLen PureTie.Head32.toHead
  simp only
  split <;> omega

/-- the source's loop is the model's `recvTokens`: one unfolding of each, case by case on the token word (`k` is the
rest of the loop); `len(input)+1` passes suffice -/
theorem loop_eq (h : PureTie.Head32) (hok : h.ok) (cs : Nat) (basis : Bytes) (hasBasis : Bool) (fuel : Nat) (inp acc : Bytes)
    (off : Int) (hfuel : inp.length < fuel) :
    match recvTokens (h.toHead cs) (if hasBasis then some basis else none) inp acc with
    | .ok (c, r) => ∃ off', Go.loopB fuel (Gen.Pure.recvLoop_body0 basis h.bl h.count hasBasis h.rem) (inp, acc, off) = .ok (r, c, off')
    | .error _ => Go.loopB fuel (Gen.Pure.recvLoop_body0 basis h.bl h.count hasBasis h.rem) (inp, acc, off) = .err := by
  refine Go.loopB_rule (body := Gen.Pure.recvLoop_body0 basis h.bl h.count hasBasis h.rem) (fun (inp, _, _) => inp.length)
    (fun (inp, acc, _) res => match recvTokens (h.toHead cs) (if hasBasis then some basis else none) inp acc with
      | .ok (c, r) => ∃ off', res = .ok (r, c, off')
      | .error _ => res = .err) ?_ fuel (inp, acc, off) hfuel
  intro ⟨inp, acc, off⟩ k ih
  dsimp only
  rw [Gen.Pure.recvLoop_body0, recvToken_tied, recvTokens, decI32]
  by_cases hs : inp.length < 4
  · simp only [hs, if_true, dite_true]; rfl
  simp only [hs, if_false, dite_false]
  generalize (UInt32.ofNat (leVal (inp.take 4))).toInt32 = tok
  -- `tok = 0`, the end token
  by_cases hz : (tok == 0) = true
  · obtain rfl := eq_of_beq hz
    exact ⟨off, rfl⟩
  -- `tok > 0`, a literal run of `tok` bytes
  by_cases hp : tok > 0
  · simp only [Int32.not_le.mpr hp, hz, hp, if_true, if_false, Bool.false_eq_true]
    by_cases hl : (inp.drop 4).length < tok.toInt.toNat
    · simp only [hl, if_true, Go.bind_err]
    · simp only [hl, if_false, Go.bind_ok, if_true, hz, hp, decide_true, Bool.false_eq_true, List.length_take,
        Nat.min_eq_left (Nat.not_lt.mp hl)]
      exact ih (_, _, _) (by simp only [List.length_drop]; omega)
  -- `tok < 0`, a reference to block `-(tok+1)`
  have hneg : tok.toInt < 0 := by
    rw [beq_iff_eq, ← Int32.toInt_inj] at hz
    rw [gt_iff_lt, Int32.lt_iff_toInt_lt] at hp
    exact Int.lt_iff_le_and_ne.mpr ⟨Int.not_lt.mp hp, hz⟩
  simp only [Int32.not_lt.mp hp, hz, hp, if_true, if_false, Bool.false_eq_true, Go.bind_ok, decide_false]
  cases hasBasis with
  | false => rfl
  | true =>
    have hr := PureTie.refSpan_tied h hok cs tok hneg
    simp only [Gen.Pure.refSpan, Prod.mk.injEq] at hr
    have hbl := blockLen_lt h hok cs (-(tok.toInt + 1)).toNat
    have hdl : (Int32.ofInt ((blockLen (h.toHead cs) (-(tok.toInt + 1)).toNat : Nat) : Int)).toInt = _ :=
      Int32.toInt_ofInt_of_le (by omega) (by omega)
    simp only [if_true, Go.bind_ok, Go.bind_ite_ok, hr.2.1, hr.2.2, hdl, Go.make_natCast, List.length_replicate, readAt_eq_readBlock]
    cases readBlock (h.toHead cs) basis (-(tok.toInt + 1)).toNat with
    | none => rfl
    | some d => exact ih (_, _, _) (by simp only [List.length_drop]; omega)

/-- **the receiver's token loop as the source has it is the model's `recvTokens`** — for every input
byte stream (valid or hostile), every validated checksum header, every basis (or none) and whatever
was written before: the same content, the same unread rest; an error return exactly where the model
fails; no panic (no slice out of range, no negative `make`), and the loop is over after at most
`len(input)+1` passes. -/
theorem recvLoop_tied (h : PureTie.Head32) (hok : h.ok) (cs : Nat) (basis : Bytes) (hasBasis : Bool) (inp acc : Bytes) :
    Gen.Pure.recvLoop inp basis hasBasis h.count h.bl h.rem acc =
      match recvTokens (h.toHead cs) (if hasBasis then some basis else none) inp acc with
      | .ok (c, r) => .ok (c, r)
      | .error _ => .err := by
  have hl := loop_eq h hok cs basis hasBasis (inp.length + 1) inp acc 0 (Nat.lt_succ_self _)
  unfold Gen.Pure.recvLoop
  simp only
  split at hl
  · obtain ⟨off', hl⟩ := hl
    rw [hl]; rfl
  · rw [hl]; rfl

end RecvTie
