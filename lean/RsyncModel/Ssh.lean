import RsyncModel.Opts
import RsyncModel.Gen.Ssh
/-! Model of the SSH front end (internal/anonssh): who is admitted, which channel and request
types are served, and what an `exec` request may run. The shapes of the source this stands for are
pinned by regenerated facts (`SshSpec`); the behaviour is tied by the `ssh` correspondence suite. -/
namespace Ssh
open Opts

/-! ### authorised keys -/

/-- one line of the authorized_keys file, with what `ssh.ParseAuthorizedKey` makes of it
(`none`: not a key) — the parser is x/crypto/ssh's and is an input of the model -/
structure KeyLine where
  raw : Str
  blob : Option Str

def isSpaceC (c : Char) : Bool := c == ' ' || c == '\t' || c == '\n' || c == '\r' || c.toNat == 11 || c.toNat == 12
def trimSpace (s : Str) : Str := ((s.dropWhile isSpaceC).reverse.dropWhile isSpaceC).reverse

/-- `tr == "" || strings.HasPrefix(tr, "#")` -/
def skipped (l : KeyLine) : Bool :=
  let tr := trimSpace l.raw
  tr.isEmpty || tr.head? == some '#'

/-- `loadAuthorizedKeys`: `none` = the load fails (a line that is neither skipped nor a key) -/
def loadKeys : List KeyLine → Option (List Str)
  | [] => some []
  | l :: rest =>
    if skipped l then loadKeys rest
    else match l.blob, loadKeys rest with
      | some k, some ks => some (k :: ks)
      | _, _ => none

/-- a listener: `keys = none` is the anonymous listener (`authorizedKeys == nil`), `some ks` an
authorised one — possibly with an empty set -/
def admits (keys : Option (List Str)) (presented : Str) : Bool :=
  match keys with
  | none => true
  | some ks => ks.contains presented

/-- `ListenerFromConfig`: keys are loaded iff an authorised-SSH address is configured -/
def listenerKeys (authorizedAddress : Str) (file : List KeyLine) : Option (Option (List Str)) :=
  if authorizedAddress.isEmpty then some none
  else match loadKeys file with
    | some ks => some (some ks)
    | none => none          -- start-up fails

/-! ### channels and requests -/

def channelAccepted (typ : String) : Bool := typ == "session"

inductive ReqOutcome
  | ignored        -- `env`: logged, nothing else
  | refused        -- error reply, channel closed
  | runs (m : Mode)
deriving Repr

/-- the anonymous gate of the `exec` request -/
def gate (cmdline : List Str) : Bool :=
  match cmdline with
  | _ :: a :: b :: _ => a == "--server".toList && b == "--daemon".toList
  | _ => false

/-- `exec`: the split command line is handed to `maincmd.Main`, which parses `args[1:]` -/
def exec (anonymous : Bool) (cmdline : List Str) : ReqOutcome :=
  if cmdline.isEmpty then .refused          -- no program name: refused (D27: once a panic in Main)
  else if anonymous && !gate cmdline then .refused else .runs (dispatch cmdline.tail)

def request (anonymous : Bool) (typ : String) (cmdline : List Str) : ReqOutcome :=
  if typ == "env" then .ignored
  else if typ == "exec" then exec anonymous cmdline
  else .refused

end Ssh
