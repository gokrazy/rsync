/-! Wire integers as the Go code writes/reads them (rsyncwire/wire.go), over byte lists. -/
namespace Wire
abbrev Bytes := List UInt8

/-- little-endian bytes of a natural number < 2^(8n) -/
def leBytes : Nat → Nat → Bytes
  | 0, _ => []
  | n + 1, v => UInt8.ofNat (v % 256) :: leBytes n (v / 256)

def leVal : Bytes → Nat
  | [] => 0
  | b :: bs => b.toNat + 256 * leVal bs

theorem leBytes_length (n v : Nat) : (leBytes n v).length = n := by
  induction n generalizing v with
  | zero => rfl
  | succ n ih => simp [leBytes, ih]

theorem leVal_leBytes (n v : Nat) (h : v < 256 ^ n) : leVal (leBytes n v) = v := by
  induction n generalizing v with
  | zero => simp at h; simp [leBytes, leVal, h]
  | succ n ih =>
    have hdiv : v / 256 < 256 ^ n := by
      rw [Nat.pow_succ] at h
      exact Nat.div_lt_of_lt_mul (by rw [Nat.mul_comm]; exact h)
    simp only [leBytes, leVal, ih _ hdiv]
    have : (UInt8.ofNat (v % 256)).toNat = v % 256 := by
      simp
    rw [this]; omega

theorem leBytes_append (n v : Nat) (rest : Bytes) (h : v < 256 ^ n) :
    leVal ((leBytes n v ++ rest).take n) = v ∧ (leBytes n v ++ rest).drop n = rest := by
  have hl := leBytes_length n v
  rw [List.take_left' hl, List.drop_left' hl, leVal_leBytes n v h]
  exact ⟨rfl, rfl⟩

/-- int32 on the wire: two's complement, little endian -/
def encI32 (v : Int32) : Bytes := leBytes 4 v.toUInt32.toNat
def decI32 (bs : Bytes) : Option (Int32 × Bytes) :=
  if bs.length < 4 then none else some ((UInt32.ofNat (leVal (bs.take 4))).toInt32, bs.drop 4)

theorem decI32_encI32 (v : Int32) (rest : Bytes) : decI32 (encI32 v ++ rest) = some (v, rest) := by
  have ⟨h1, h2⟩ := leBytes_append 4 v.toUInt32.toNat rest (by have := v.toUInt32.toNat_lt; omega)
  rw [decI32, if_neg (by simp [encI32, leBytes_length]), encI32, h1, h2]
  simp

/-- int64 two's complement little endian -/
def encI64raw (v : Int64) : Bytes := leBytes 8 v.toUInt64.toNat
def decI64raw (bs : Bytes) : Option (Int64 × Bytes) :=
  if bs.length < 8 then none else some ((UInt64.ofNat (leVal (bs.take 8))).toInt64, bs.drop 8)

theorem decI64raw_encI64raw (v : Int64) (rest : Bytes) : decI64raw (encI64raw v ++ rest) = some (v, rest) := by
  have ⟨h1, h2⟩ := leBytes_append 8 v.toUInt64.toNat rest (by have := v.toUInt64.toNat_lt; omega)
  rw [decI64raw, if_neg (by simp [encI64raw, leBytes_length]), encI64raw, h1, h2]
  simp

/-- rsync "long": an int32 if 0 ≤ v ≤ 0x7FFFFFFF, else int32 −1 followed by the int64
(`Buffer.WriteInt64`, `Conn.ReadInt64` in wire.go) -/
def encLong (v : Int64) : Bytes :=
  if 0 ≤ v ∧ v ≤ 0x7FFFFFFF then encI32 v.toInt32 else encI32 (-1) ++ encI64raw v

def decLong (bs : Bytes) : Option (Int64 × Bytes) :=
  match decI32 bs with
  | none => none
  | some (d, rest) => if d != -1 then some (d.toInt64, rest) else decI64raw rest

theorem decLong_encLong (v : Int64) (rest : Bytes) : decLong (encLong v ++ rest) = some (v, rest) := by
  by_cases h : 0 ≤ v ∧ v ≤ 0x7FFFFFFF
  · simp only [encLong, if_pos h, decLong, decI32_encI32]
    obtain ⟨h0, h1⟩ := h
    rw [Int64.le_iff_toInt_le] at h0 h1
    simp at h0 h1
    have hb : v.toInt.bmod 4294967296 = v.toInt := by
      simp only [Int.bmod]; split <;> omega
    have hne : (v.toInt32 != -1) = true := by
      simp only [bne_iff_ne, ne_eq]
      intro hc
      have := congrArg Int32.toInt hc
      simp [Int64.toInt_toInt32, hb] at this
      omega
    simp only [hne, if_true]
    congr 2
    apply Int64.toInt_inj.mp
    simp [Int64.toInt_toInt32, hb]
  · simp only [encLong, if_neg h, decLong, List.append_assoc, decI32_encI32]
    simp [decI64raw_encI64raw]

end Wire
