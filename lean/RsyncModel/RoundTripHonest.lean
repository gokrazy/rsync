import RsyncModel.RoundTrip
import RsyncModel.Delta.HonestHead
/-! Round trip against the signature an honest receiver computes (header arithmetic included). -/
namespace Recv
open Wire Delta
open Spec (wsum pack Ctx)

theorem mkCtx_matches (H : List UInt8 → List UInt8) (h : Head) (sums : List Delta.Sum) (w : List UInt8) (i : Nat) :
    (mkCtx H h sums).matches w i = true ↔ ∃ s, sums[i]? = some s ∧ blockLen h i = w.length ∧
      s.sum1 = pack (wsum w) ∧ s.sum2.take h.csLen = (H w).take h.csLen := by
  simp only [Ctx.matches, mkCtx, mkBlocks, List.getElem?_zipWith]
  cases hs : sums[i]? with
  | none => simp
  | some s =>
    have hi : i < sums.length := (List.getElem?_eq_some_iff.mp hs).1
    simp [List.getElem?_range hi, and_assoc]

/-- the signature of `basis` as `generateAndSendSums` computes it: per block the packed weak sum and
the seeded strong sum `Hs` -/
def honestSums (Hs : List UInt8 → List UInt8) (blm1 : Nat) (basis : List UInt8) : List Delta.Sum :=
  (splitBlocks blm1 basis).map fun p => ⟨pack (wsum p), Hs p⟩

/-- **Round trip against an honest signature** (C02): for every basis, every target, every block
length (`blm1+1 ≤ 2²⁹`) and every strong-checksum length `cs ≤ 16`: if no block of the basis
collides under the truncated strong hash with a different window of the same length
(`nocoll`), the receiver reconstructs and commits exactly the target from the Go-level sender's
stream — remainder block, duplicate blocks, matches at unaligned offsets and empty files included. -/
theorem roundtrip_honest (Hs Hfile : List UInt8 → List UInt8) (blm1 cs : Nat) (basis t rest : List UInt8)
    (hcs : cs ≤ maxCsLen) (hbl : blm1 + 1 ≤ maxBlockLen)
    (hcount : (honestHead blm1 cs basis).count < 2147483648)
    (hfile16 : (Hfile t).length = 16)
    (nocoll : ∀ (i : Nat) (p w : List UInt8), (splitBlocks blm1 basis)[i]? = some p → p.length = w.length →
      (Hs p).take cs = (Hs w).take cs → p = w) :
    recvData Hfile (some basis)
        (encHead (honestHead blm1 cs basis) ++
          (encToks (senderTokens Hs (honestHead blm1 cs basis) (honestSums Hs blm1 basis) t) ++ (Hfile t ++ rest)))
      = (.committed t, rest) := by
  have hlen : (honestSums Hs blm1 basis).length = (honestHead blm1 cs basis).count := by
    simp only [honestSums, List.length_map, honestHead, splitBlocks_length]
  apply roundtrip Hs Hfile _ _ basis t rest (fun i => ((splitBlocks blm1 basis)[i]?).getD [])
  · exact ⟨hcount, hbl, hcs, Nat.le_of_lt (Nat.mod_lt _ (Nat.succ_pos _)), fun _ => Nat.succ_pos _⟩
  · rw [hlen]; exact hcount
  · exact hfile16
  · -- a matching window has the length and the truncated strong sum of block `i` of the cut: no collision, so it is that block
    intro w i hm
    obtain ⟨s, hs, hl, -, hh⟩ := (mkCtx_matches ..).mp hm
    simp only [honestSums, List.getElem?_map, Option.map_eq_some_iff] at hs
    obtain ⟨p, hp, rfl⟩ := hs
    rw [hp, Option.getD_some]
    refine nocoll i p w hp ?_ hh
    rw [splitBlocks_getElem?] at hp
    split at hp
    · next hi => cases hp; rw [← hl, blockLen_honest blm1 cs basis i hi, List.length_take, List.length_drop]
    · cases hp
  · intro i hi
    rw [hlen] at hi
    rw [readBlock_honest blm1 cs basis i hi, splitBlocks_getElem?, if_pos ((lt_count_iff ..).mp hi)]
    rfl

/-- the no-collision hypothesis is satisfiable: for the identity "hash" and blocks no longer than
the compared prefix it holds for every basis -/
example (blm1 cs : Nat) (basis : List UInt8) (h : blm1 + 1 ≤ cs) :
    ∀ (i : Nat) (p w : List UInt8), (splitBlocks blm1 basis)[i]? = some p → p.length = w.length →
      (id p).take cs = (id w).take cs → p = w := by
  intro i p w hp hl he
  have hpl : p.length ≤ blm1 + 1 := by
    rw [splitBlocks_getElem?] at hp
    split at hp
    · cases hp; simp only [List.length_take]; omega
    · cases hp
  simp only [id] at he
  rw [List.take_of_length_le (by omega), List.take_of_length_le (by omega)] at he
  exact he

end Recv
