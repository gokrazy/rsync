import RsyncModel.Delta.Roll
/-! `rsyncchecksum.Checksum1` as the Go code computes it (4-unrolled loop over `uint32`) and its
relation to the unbounded sums `S1`, `S2` of the specification; after it the packed weak sum and the
tag-table hashes the sender's lookup works with (`pack`, `tag2`, `tag`). -/
namespace Spec

/-- the byte-at-a-time tail loop of `Checksum1` (rsyncchecksum.go) -/
def c1tail (s1 s2 : UInt32) : Bytes → UInt32 × UInt32
  | [] => (s1, s2)
  | b :: bs => c1tail (s1 + signExtend b) (s2 + (s1 + signExtend b)) bs

/-- the 4-unrolled loop of `Checksum1` (rsyncchecksum.go): runs while more than 4 bytes remain -/
def c1loop (s1 s2 : UInt32) : Bytes → UInt32 × UInt32
  | b0 :: b1 :: b2 :: b3 :: b4 :: rest =>
    c1loop (s1 + (signExtend b0 + signExtend b1 + signExtend b2 + signExtend b3))
      (s2 + (4 * (s1 + signExtend b0) + 3 * signExtend b1 + 2 * signExtend b2 + signExtend b3))
      (b4 :: rest)
  | bs => c1tail s1 s2 bs

/-- `Checksum1(buf)`: `(s1 & 0xffff) + (s2 << 16)` -/
def checksum1 (buf : Bytes) : UInt32 :=
  let r := c1loop 0 0 buf
  (r.1 &&& (0xffff : UInt32)) + (r.2 <<< 16)

theorem c1tail4 (s1 s2 : UInt32) (b0 b1 b2 b3 : UInt8) (rest : Bytes) :
    c1tail s1 s2 (b0 :: b1 :: b2 :: b3 :: rest) =
      c1tail (s1 + (signExtend b0 + signExtend b1 + signExtend b2 + signExtend b3))
        (s2 + (4 * (s1 + signExtend b0) + 3 * signExtend b1 + 2 * signExtend b2 + signExtend b3)) rest := by
  simp only [c1tail]
  generalize signExtend b0 = x0; generalize signExtend b1 = x1
  generalize signExtend b2 = x2; generalize signExtend b3 = x3
  congr 1
  · simp only [UInt32.add_assoc]
  · grind

theorem c1loop_eq_tail (s1 s2 : UInt32) (bs : Bytes) : c1loop s1 s2 bs = c1tail s1 s2 bs := by
  induction s1, s2, bs using c1loop.induct with
  | case1 s1 s2 b0 b1 b2 b3 b4 rest ih => rw [c1loop, c1tail4, ih]
  | case2 s1 s2 bs h => rw [c1loop]; exact h

theorem c1tail_cong {s1 s2 : UInt32} (p bs : Bytes) (h1 : Cong s1 (S1 p)) (h2 : Cong s2 (S2 p)) :
    Cong (c1tail s1 s2 bs).1 (S1 (p ++ bs)) ∧ Cong (c1tail s1 s2 bs).2 (S2 (p ++ bs)) := by
  induction bs generalizing s1 s2 p with
  | nil => rw [List.append_nil]; exact ⟨h1, h2⟩
  | cons b bs ih =>
    have ⟨h1', h2'⟩ := cong_push b h1 h2
    rw [List.append_cons, c1tail]; exact ih _ h1' h2'

theorem cong_zero : Cong 0 0 := rfl

theorem toNat_and_ffff (a : UInt32) : (a &&& (0xffff : UInt32)).toNat = a.toNat % 65536 :=
  (UInt32.toNat_and ..).trans (Nat.and_two_pow_sub_one_eq_mod _ 16)

theorem toNat_halves (a b : UInt32) :
    ((a &&& (0xffff : UInt32)) + (b <<< 16)).toNat = a.toNat % 65536 + b.toNat % 65536 * 65536 := by
  have hb : (b <<< 16).toNat = b.toNat % 65536 * 65536 := by
    rw [UInt32.toNat_shiftLeft, Nat.shiftLeft_eq]; exact Nat.mul_mod_mul_right 65536 b.toNat 65536
  rw [UInt32.toNat_add, toNat_and_ffff, hb]
  have := Nat.mod_lt a.toNat (by decide : 0 < 65536)
  have := Nat.mod_lt b.toNat (by decide : 0 < 65536)
  exact Nat.mod_eq_of_lt (by generalize a.toNat % 65536 = lo, b.toNat % 65536 = hi at *; omega)

theorem halves_add_shift (a b : UInt32) :
    (((a &&& (0xffff : UInt32)) + (b <<< 16)) &&& (0xFFFF : UInt32), ((a &&& (0xffff : UInt32)) + (b <<< 16)) >>> 16)
      = (a.toUInt16.toUInt32, b.toUInt16.toUInt32) := by
  refine Prod.ext (UInt32.toNat_inj.mp ?_) (UInt32.toNat_inj.mp ?_)
  · rw [toNat_and_ffff, toNat_halves, UInt16.toNat_toUInt32, UInt32.toNat_toUInt16]
    exact (Nat.add_mul_mod_self_right ..).trans (Nat.mod_mod ..)
  · rw [UInt32.toNat_shiftRight, toNat_halves, UInt16.toNat_toUInt32, UInt32.toNat_toUInt16]
    refine (Nat.shiftRight_eq_div_pow ..).trans ((Nat.add_mul_div_right _ _ (by decide)).trans ?_)
    rw [Nat.div_eq_of_lt (Nat.mod_lt _ (by decide)), Nat.zero_add]

/-- the two halves the sender extracts in `readChunk` (`sum & 0xFFFF`, `sum >> 16`) -/
theorem checksum1_halves (buf : Bytes) :
    ((checksum1 buf) &&& (0xFFFF : UInt32), (checksum1 buf) >>> 16) = wsum buf := by
  have hc := c1tail_cong [] buf cong_zero cong_zero
  rw [checksum1, c1loop_eq_tail, halves_add_shift]
  exact Prod.ext (trunc16_eq_lo16 hc.1) (trunc16_eq_lo16 hc.2)

/-- `sum = (uint32(s1) & 0xFFFF) | (uint32(s2) << 16)` in `hashSearch` (match.go) — the packed weak sum
compared with `Sum1` -/
def pack (s : UInt32 × UInt32) : UInt32 := (s.1 &&& (0xFFFF : UInt32)) ||| (s.2 <<< 16)

/-- `Tag2(uint16(s1), uint16(s2))` -/
def tag2 (s1 s2 : UInt32) : UInt16 := s1.toUInt16 + s2.toUInt16
/-- `Tag(sum)` -/
def tag (sum : UInt32) : UInt16 := tag2 (sum &&& (0xFFFF : UInt32)) (sum >>> 16)

end Spec
