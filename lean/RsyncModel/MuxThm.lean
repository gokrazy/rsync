import RsyncModel.Mux
/-! Theorems about the multiplex model: header round trip, frame-stream parsing,
and the client reader as a function of the concatenated data payloads only. -/
namespace Mux
open Wire

theorem toNat_hdr (x : UInt8) (l : Nat) (h : l < 2^24) :
    ((x.toUInt32 <<< 24) ||| UInt32.ofNat l).toNat = x.toNat * 2^24 + l := by
  have hx : x.toNat <<< 24 < 2^32 := by have := x.toNat_lt; rw [Nat.shiftLeft_eq]; omega
  rw [UInt32.toNat_or, UInt32.toNat_shiftLeft, UInt8.toNat_toUInt32, UInt32.toNat_ofNat',
    Nat.mod_eq_of_lt (a := l) (by omega), show (24 : UInt32).toNat % 32 = 24 from rfl, Nat.mod_eq_of_lt hx,
    ← Nat.shiftLeft_add_eq_or_of_lt h, Nat.shiftLeft_eq]

/-- the size limit is below the 24-bit length field (regenerated constant) -/
theorem maxMsg_lt : maxMsg < 2^24 := by decide

theorem header_roundtrip (t : UInt8) (l : Nat) (h : l < 2^24) :
    ((header t l) >>> 24).toUInt8 - mplexBase = t ∧ ((header t l) &&& 0x00FFFFFF).toNat = l := by
  have e := toNat_hdr (mplexBase + t) l h
  constructor
  · have : ((header t l) >>> 24).toUInt8 = mplexBase + t := by
      apply UInt8.toNat_inj.mp
      rw [UInt32.toNat_toUInt8, UInt32.toNat_shiftRight, header, e, show (24 : UInt32).toNat % 32 = 24 from rfl,
        Nat.shiftRight_eq_div_pow, Nat.add_comm, Nat.add_mul_div_right _ _ (by decide), Nat.div_eq_of_lt h, Nat.zero_add]
      exact Nat.mod_eq_of_lt (UInt8.toNat_lt _)
    rw [this, UInt8.add_comm]; exact UInt8.add_sub_cancel t mplexBase
  · rw [UInt32.toNat_and, header, e, show (0x00FFFFFF : UInt32).toNat = 2^24 - 1 from rfl,
      Nat.and_two_pow_sub_one_eq_mod, Nat.mul_add_mod_self_right, Nat.mod_eq_of_lt h]

theorem parse_encFrame (f : Frame) (rest : Bytes) (h : f.payload.length ≤ maxMsg) :
    parse (encFrame f ++ rest) = (f :: (parse rest).1, (parse rest).2) := by
  have hl24 : f.payload.length < 2^24 := Nat.lt_of_le_of_lt h maxMsg_lt
  have hlen : (leBytes 4 (header f.tag f.payload.length).toNat).length = 4 := leBytes_length _ _
  have e : encFrame f ++ rest = leBytes 4 (header f.tag f.payload.length).toNat ++ (f.payload ++ rest) := by
    simp [encFrame]
  have hh := leBytes_append 4 (header f.tag f.payload.length).toNat (f.payload ++ rest) (by
    have := (header f.tag f.payload.length).toNat_lt
    omega)
  have hr := header_roundtrip f.tag f.payload.length hl24
  have hhdr : hdrOf (encFrame f ++ rest) = header f.tag f.payload.length := by
    unfold hdrOf
    rw [e, hh.1, UInt32.ofNat_toNat]
  have htag : tagOf (encFrame f ++ rest) = f.tag := by unfold tagOf; rw [hhdr, hr.1]
  have hlenOf : lenOf (encFrame f ++ rest) = f.payload.length := by unfold lenOf; rw [hhdr, hr.2]
  have hdrop : (encFrame f ++ rest).drop 4 = f.payload ++ rest := by rw [e, hh.2]
  rw [parse]
  have hne : encFrame f ++ rest ≠ [] := by
    intro hc
    have := congrArg List.length hc
    simp [encFrame, hlen] at this
  have hge : ¬ (encFrame f ++ rest).length < 4 := by simp [encFrame, hlen]
  rw [if_neg hne, if_neg hge, hlenOf, htag, hdrop, if_neg (by omega), if_neg (by simp)]
  simp

def encFrames (fs : List Frame) : Bytes := fs.flatMap encFrame

theorem parse_nil : parse [] = ([], End.eof) := by rw [parse]; simp

theorem parse_payload_le (bs : Bytes) : ∀ f ∈ (parse bs).1, f.payload.length ≤ maxMsg := by
  induction bs using parse.induct with
  | case1 => rw [parse]; simp
  | case2 x h0 h => rw [parse]; simp [h0, h]
  | case3 x h0 h hlen => rw [parse]; simp [h0, h, hlen]
  | case4 x h0 h hlen hshort => rw [parse]; rw [if_neg h0, if_neg h, if_neg hlen, if_pos hshort]; simp
  | case5 x h0 h hlen hshort ih =>
    rw [parse]; rw [if_neg h0, if_neg h, if_neg hlen, if_neg hshort]
    intro f hf
    simp only [List.mem_cons] at hf
    rcases hf with hf | hf
    · subst hf; simp only [List.length_take]; omega
    · exact ih f hf

/-! ### the client reader -/

def dataOf : List Frame → Bytes
  | [] => []
  | f :: fs => if f.tag == tagData then f.payload ++ dataOf fs else dataOf fs

/-- frames a well-behaved server sends before the end/error -/
def Benign (fs : List Frame) : Prop :=
  ∀ f ∈ fs, (f.tag = tagData ∨ f.tag = tagInfo) ∧ f.payload.length ≤ maxMsg

def view (st : St) : Bytes := st.buf ++ dataOf st.frames

theorem readFull_zero (bufSize : Nat) (acc : Bytes) (st : St) : readFull bufSize 0 acc st = (Res.ok acc, st) := by
  unfold readFull; simp

theorem readFull_buf (bufSize k : Nat) (acc buf : Bytes) (frames : List Frame) (fin : End) :
    readFull bufSize k acc ⟨buf, frames, fin⟩ =
      if k ≤ buf.length then (.ok (acc ++ buf.take k), ⟨buf.drop k, frames, fin⟩)
      else readFull bufSize (k - buf.length) (acc ++ buf) ⟨[], frames, fin⟩ := by
  by_cases hk : k = 0
  · simp [hk, readFull_zero]
  · cases buf with
    | nil => simp [hk]
    | cons b bs =>
      rw [readFull, if_neg hk, List.length_cons]
      by_cases h : k ≤ bs.length + 1
      · simp [h, Nat.min_eq_left h, readFull_zero]
      · simp [h, Nat.min_eq_right (Nat.le_of_not_le h)]

/-- a data frame is as good as buffered: the direct read into a slice of at least the buffer size
hands over the same bytes -/
theorem readFull_frame (bufSize k : Nat) (acc : Bytes) (f : Frame) (fs : List Frame) (fin : End)
    (hk : k ≠ 0) (hle : f.payload.length ≤ bufSize) :
    readFull bufSize k acc ⟨[], f :: fs, fin⟩ =
      if f.tag == tagError then (.server f.payload, ⟨[], fs, fin⟩)
      else if f.tag == tagInfo then readFull bufSize k acc ⟨[], fs, fin⟩
      else if f.tag != tagData then (.badTag f.tag, ⟨[], fs, fin⟩)
      else readFull bufSize k acc ⟨f.payload, fs, fin⟩ := by
  rw [readFull, if_neg hk]
  refine ite_congr rfl (fun _ => rfl) fun _ => ite_congr rfl (fun _ => rfl) fun _ => ite_congr rfl (fun _ => rfl) fun _ => ?_
  by_cases hge : k ≥ bufSize
  · rw [if_pos hge, if_neg (by omega), readFull_buf _ k]
    by_cases h : k ≤ f.payload.length
    · simp [show k = f.payload.length by omega, readFull_zero]
    · rw [if_neg h]
  · rw [if_neg hge, if_neg (by omega)]

/-- **No buffer panic**: when the `bufio` size is at least the frame size limit, `Read` never reaches
`panic("not enough buffer space!")`, for any frames within the limit (hence for any byte stream,
`parse_payload_le`), any buffered bytes and any request size. -/
theorem readFull_no_panic (bufSize : Nat) (hb : maxMsg ≤ bufSize) (k : Nat) (acc : Bytes) (st : St)
    (hf : ∀ f ∈ st.frames, f.payload.length ≤ maxMsg) :
    (readFull bufSize k acc st).1 ≠ Res.panic := by
  obtain ⟨buf, frames, fin⟩ := st
  induction frames generalizing k acc buf with (rw [readFull_buf]; split; · simp)
  | nil => rw [readFull, if_neg (by omega)]; cases fin <;> simp [endRes]
  | cons f fs ih =>
    have ih := fun k acc buf => ih k acc buf fun g hg => hf g (List.mem_cons_of_mem _ hg)
    rw [readFull_frame _ _ _ _ _ _ (by omega) (Nat.le_trans (hf f (List.mem_cons_self ..)) hb)]
    split; · simp
    split; · exact ih _ _ _
    split; · simp
    exact ih _ _ _

/-- one iteration that hands over the next `m ≤ k` bytes `a` of the view: what is left to show is the claim for the rest -/
theorem spec_step {k m : Nat} {acc a : Bytes} {st st1 : St} {r : Res Bytes × St} (hm : m ≤ k)
    (ha : a = (view st).take m) (hv : view st1 = (view st).drop m) (hfin : st1.fin = st.fin)
    (ih : ∃ st', r = (Res.ok ((acc ++ a) ++ (view st1).take (k - m)), st') ∧
      view st' = (view st1).drop (k - m) ∧ Benign st'.frames ∧ st'.fin = st1.fin) :
    ∃ st', r = (Res.ok (acc ++ (view st).take k), st') ∧
      view st' = (view st).drop k ∧ Benign st'.frames ∧ st'.fin = st.fin := by
  obtain ⟨st', h1, h2, h3, h4⟩ := ih
  refine ⟨st', ?_, ?_, h3, h4.trans hfin⟩
  · rw [h1, ha, hv, List.append_assoc, ← List.take_add, Nat.add_sub_cancel' hm]
  · rw [h2, hv, List.drop_drop, Nat.add_sub_cancel' hm]

/-- **Framing transparency**: with a buffer at least as large as the frame limit, a `ReadFull` of `k`
bytes returns exactly the next `k` bytes of the *concatenated data payloads* (`view`), and leaves the
reader in a state whose view is the rest — whatever the frame boundaries are, wherever info frames
sit, and whether bytes came through the internal buffer or directly. The client is therefore a
function of `dataOf frames` alone. -/
theorem readFull_spec (bufSize : Nat) (hb : maxMsg ≤ bufSize) (k : Nat) (acc : Bytes) (st : St)
    (hben : Benign st.frames) (hk : k ≤ (view st).length) :
    ∃ st', readFull bufSize k acc st = (Res.ok (acc ++ (view st).take k), st') ∧
      view st' = (view st).drop k ∧ Benign st'.frames ∧ st'.fin = st.fin := by
  obtain ⟨buf, frames, fin⟩ := st
  induction frames generalizing k acc buf with
    (rw [readFull_buf]
     split
     next h =>
       refine ⟨⟨buf.drop k, _, fin⟩, ?_, ?_, hben, rfl⟩
       · rw [view, List.take_append_of_le_length h]
       · rw [view, view, List.drop_append_of_le_length h])
  | nil => simp [view, dataOf] at hk; omega
  | cons f fs ih =>
    have ⟨ht, hlen⟩ := hben f (List.mem_cons_self ..)
    -- however the frame is taken, what is buffered then and the frames left make up `dataOf (f :: fs)`
    obtain ⟨b1, hr, hv⟩ : ∃ b1, readFull bufSize (k - buf.length) (acc ++ buf) ⟨[], f :: fs, fin⟩ =
        readFull bufSize (k - buf.length) (acc ++ buf) ⟨b1, fs, fin⟩ ∧ b1 ++ dataOf fs = dataOf (f :: fs) := by
      rw [readFull_frame _ _ _ _ _ _ (by omega) (Nat.le_trans hlen hb)]
      rcases ht with ht | ht
      · exact ⟨f.payload, by rw [ht, if_neg (by decide), if_neg (by decide), if_neg (by decide)], by simp [dataOf, ht]⟩
      · exact ⟨[], by rw [ht, if_neg (by decide), if_pos (by decide)], by simp [dataOf, ht, show tagInfo ≠ tagData by decide]⟩
    rw [hr]
    exact spec_step (m := buf.length) (a := buf) (st := ⟨buf, f :: fs, fin⟩) (st1 := ⟨b1, fs, fin⟩) (by omega)
      (by simp [view]) (by simp [view, hv]) rfl
      (ih _ _ _ (fun g hg => hben g (List.mem_cons_of_mem _ hg)) (by simp [view, hv] at hk ⊢; omega))

end Mux
