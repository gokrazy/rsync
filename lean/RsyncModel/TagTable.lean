/-! # The sender's tag table (sender.go `SendFiles`, match.go `hashSearch`)

`targets` is the list of `(tag, block index)` pairs of all blocks, sorted by tag; `tagTable[t]` is the
first position in it whose tag is `t`. The search looks up the tag of the current window and scans
forward while the tag stays equal (`for ; j < count && targets[j].tag == tag; j++`). Proved: that scan
visits exactly the blocks whose tag equals the window's — no block is missed wherever it stands in the
file and however many blocks there are — so the table only pre-filters, as the model `lookGo` assumes. -/
namespace TagTable

/-- first position whose tag is `t` (what the backwards loop `tagTable[targets[idx].tag] = idx` leaves) -/
def firstPos (targets : List (Nat × Nat)) (t : Nat) : Option Nat :=
  let i := targets.findIdx (fun p => p.1 == t)
  if i < targets.length then some i else none

/-- the scan of `hashSearch`: from `j` while the tag equals `t` -/
def scanFrom (t : Nat) : List (Nat × Nat) → List Nat
  | [] => []
  | p :: ps => if p.1 == t then p.2 :: scanFrom t ps else []

def lookup (targets : List (Nat × Nat)) (t : Nat) : List Nat :=
  match firstPos targets t with
  | none => []
  | some j => scanFrom t (targets.drop j)

def SortedByTag (l : List (Nat × Nat)) : Prop := l.Pairwise (fun a b => a.1 ≤ b.1)

theorem scanFrom_eq_filter (t : Nat) : ∀ (l : List (Nat × Nat)), SortedByTag l → (∀ p ∈ l, t ≤ p.1) →
    scanFrom t l = (l.filter (fun p => p.1 == t)).map (·.2) := by
  intro l
  induction l with
  | nil => intro _ _; rfl
  | cons p ps ih =>
    intro hs hge
    have hs' : SortedByTag ps := (List.pairwise_cons.mp hs).2
    have hp := (List.pairwise_cons.mp hs).1
    by_cases h : p.1 = t
    · have hb : (p.1 == t) = true := by simpa using h
      simp only [scanFrom, hb, if_true, List.filter_cons, List.map_cons]
      rw [ih hs' (fun q hq => hge q (by simp [hq]))]
    · have hb : (p.1 == t) = false := by simpa using h
      have hlt : t < p.1 := by have := hge p (by simp); omega
      -- everything behind p has a tag ≥ p's > t: nothing matches
      have hnone : ps.filter (fun q => q.1 == t) = [] := by
        apply List.filter_eq_nil_iff.mpr
        intro q hq
        have := hp q hq
        simp; omega
      simp [scanFrom, hb, hnone]

theorem lookup_cons (p : Nat × Nat) (ps : List (Nat × Nat)) (t : Nat) :
    lookup (p :: ps) t = if p.1 == t then scanFrom t (p :: ps) else lookup ps t := by
  simp only [lookup, firstPos, List.findIdx_cons, List.length_cons]
  cases h : p.1 == t
  · by_cases hi : List.findIdx (fun p => p.1 == t) ps < ps.length <;> simp [hi]
  · simp

theorem lookup_complete (targets : List (Nat × Nat)) (t : Nat) (hs : SortedByTag targets) :
    lookup targets t = (targets.filter (fun p => p.1 == t)).map (·.2) := by
  induction targets with
  | nil => rfl
  | cons p ps ih =>
    have ⟨hp, hs'⟩ := List.pairwise_cons.mp hs
    rw [lookup_cons]
    split
    · next h =>
      have ht : p.1 = t := by simpa using h
      exact scanFrom_eq_filter t _ hs fun q hq => by
        rcases List.mem_cons.mp hq with rfl | hq
        · omega
        · have := hp q hq; omega
    · next h => rw [ih hs', List.filter_cons_of_neg (by simpa using h)]

/-- non-vacuity: three blocks share tag 7, one of them with an index beyond 2^16 -/
example : lookup [(3, 0), (7, 70000), (7, 2), (7, 5), (9, 1)] 7 = [70000, 2, 5] := by decide

end TagTable
