import RsyncModel.Gen.Pure
import RsyncModel.Mux
/-! # Readers of peer-supplied input as the source has them

`recvIdMapping1` (uid/gid name lists), `RecvFilterList` (the client's filter rules) and
`MultiplexReader.ReadMsg` (frames from a server), translated from /repo on every run with the
connection's input as a byte list that is consumed. For **every** input they return a value or an
error — never `panic` (no negative or oversized `make`, no slice out of range) — and their loops end
within `len(input)+1` passes. The argument is compositional: `Go.Safe P x` (a value with `P`, or an error) is
kept by `Go.bind`, and each primitive reader is safe with a rest no longer than its input. -/
namespace PeerInput
open Go Wire

theorem readU32_cases (inp : Bytes) : Go.readU32 inp = .err ∨ ∃ v rest, Go.readU32 inp = .ok (v, rest) ∧ rest.length ≤ inp.length := by
  unfold Go.readU32
  split
  · left; rfl
  · right; exact ⟨_, _, rfl, (List.drop_sublist _ _).length_le⟩

theorem recvId_safe (s : Bytes × List Go.Out) :
    Safe (fun r => r.2 = true → r.1.1.length < s.1.length) (Gen.Pure.recvIdLoop_body0 s) :=
  (readI32_safe s.1).bind fun (id, i1) h1 => by
    dsimp only
    split
    · exact fun h => Bool.noConfusion h
    · refine (readByte_safe i1).bind fun (len, i2) h2 => ?_
      dsimp only
      rw [Go.make_natCast, Go.bind_ok]
      exact (readFull_safe i2 _).bind fun _ h3 _ => Nat.lt_of_le_of_lt h3 (Nat.lt_of_le_of_lt h2 h1)

/-- a negative or oversized length is an error *before* anything is allocated -/
theorem recvFilter_safe (s : Bytes × List Go.Out) :
    Safe (fun r => r.2 = true → r.1.1.length < s.1.length) (Gen.Pure.recvFilterLoop_body0 s) :=
  (readI32_safe s.1).bind fun (len, i1) h1 => by
    dsimp only
    split
    · exact fun h => Bool.noConfusion h
    · rw [Go.make_checked]
      split
      · trivial
      · exact (readFull_safe i1 _).bind fun _ h3 _ => Nat.lt_of_le_of_lt h3 h1

/-- **a list reader never panics and always ends**, whatever bytes arrive: a pass that continues has consumed input -/
theorem listLoop_no_panic {body : Bytes × List Go.Out → Res ((Bytes × List Go.Out) × Bool)}
    (hs : ∀ s, Safe (fun r => r.2 = true → r.1.1.length < s.1.length) (body s)) (inp : Bytes) (out : List Go.Out) :
    (Go.bind (Go.loopB (inp.length + 1) body (inp, out)) fun (inp, out) => Go.Res.ok (out, inp)) ≠ .panic :=
  Safe.ne_panic (P := fun _ => True)
    ((Safe.loopB (inp, out) (fun s => s.1.length) hs).bind fun (_, _) _ => trivial)

/-- **`ReadMsg` as the source has it**: for every input a frame or an error, never a panic; a frame is
returned exactly when the model's `parse` finds a first frame, and it is that frame (same tag, same
payload, same rest); a declared length above `maxMessageSize` is an error before anything is allocated -/
theorem readMsg_tied (inp : Bytes) :
    Gen.Pure.ReadMsg inp =
      if inp.length < 4 then .err
      else if Mux.lenOf inp > Mux.maxMsg then .err
      else if (inp.drop 4).length < Mux.lenOf inp then .err
      else .ok (Mux.tagOf inp, (inp.drop 4).take (Mux.lenOf inp), (inp.drop 4).drop (Mux.lenOf inp)) := by
  have hgt : (Mux.hdrOf inp &&& 16777215 > (262144 : UInt32)) ↔ Mux.lenOf inp > Mux.maxMsg := UInt32.lt_iff_toNat_lt
  rw [Gen.Pure.ReadMsg, Go.readU32, Go.bind_ite_err]
  refine ite_congr rfl (fun _ => rfl) fun _ => ?_
  -- the header's length field is `Mux.lenOf inp` by definition (and its tag `Mux.tagOf inp`: the closing `rfl`)
  show (if decide (Mux.hdrOf inp &&& 16777215 > (262144 : UInt32)) = true then _
    else Go.bind (Go.make ((Mux.lenOf inp : Nat) : Int)) _) = _
  simp only [decide_eq_true_eq, hgt, Go.make_natCast, Go.bind_ok, List.length_replicate, Go.readFull_natCast, Go.bind_ite_err]
  rfl

end PeerInput
