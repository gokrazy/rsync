import RsyncModel.WireInt
/-! # Semantics of the Go subset that `tools/extract/pure.go` translates

`Gen/Pure.lean` (regenerated from /repo on every run) is written against these few definitions.
They are the *trusted* meaning of: results with the two abnormal outcomes (`err`: the function
returned an error; `panic`: a run-time panic such as an index out of range, a division by zero, a
negative `make`, or a loop that exceeded its fuel), byte slices as lists (len = cap), and loops.

Below the definitions the file holds what is proved about them once: sequencing, what each primitive
does, one rule per loop kind, `Safe` (a value or an error, no panic), and `Int32` arithmetic without
wrap-around. Only the definitions are trusted. -/
namespace Go

inductive Res (α : Type) where
  | ok (a : α)
  | err
  | panic
deriving Repr, DecidableEq

def bind {α β : Type} (r : Res α) (f : α → Res β) : Res β :=
  match r with
  | .ok a => f a
  | .err => .err
  | .panic => .panic

@[simp] theorem bind_ok {α β : Type} (a : α) (f : α → Res β) : bind (.ok a) f = f a := rfl
@[simp] theorem bind_err {α β : Type} (f : α → Res β) : bind (.err : Res α) f = .err := rfl
@[simp] theorem bind_panic {α β : Type} (f : α → Res β) : bind (.panic : Res α) f = .panic := rfl

/-- `b[i]` -/
def idx (b : List UInt8) (i : Int) : Res UInt8 :=
  if i < 0 then .panic else
  match b[i.toNat]? with
  | some x => .ok x
  | none => .panic

/-- `b[lo:hi]` (len = cap) -/
def slice (b : List UInt8) (lo hi : Int) : Res (List UInt8) :=
  if 0 ≤ lo ∧ lo ≤ hi ∧ hi ≤ (b.length : Int) then .ok ((b.drop lo.toNat).take (hi - lo).toNat) else .panic

/-- `make([]byte, n)` -/
def make (n : Int) : Res (List UInt8) :=
  if n < 0 then .panic else .ok (List.replicate n.toNat 0)

/-- `copy(dst, src)`: the first `min(len dst, len src)` bytes of `dst` are overwritten (overlap-safe in Go) -/
def copy (dst src : List UInt8) : List UInt8 :=
  (src.take dst.length) ++ dst.drop (min dst.length src.length)

/-- truncated division, panics on zero -/
def div (a b : Int) : Res Int := if b = 0 then .panic else .ok (Int.tdiv a b)
def rem (a b : Int) : Res Int := if b = 0 then .panic else .ok (Int.tmod a b)
def nonzero (b : Bool) : Res Unit := if b then .ok () else .panic

/-- `for cond { body }` with an explicit bound on the number of iterations; exceeding it is `panic`,
so a theorem `… = .ok v` about a translated loop also shows that the bound suffices. -/
def loop {σ : Type} (fuel : Nat) (cond : σ → Bool) (body : σ → Res σ) (s : σ) : Res σ :=
  match fuel with
  | 0 => if cond s then .panic else .ok s
  | n + 1 => if cond s then bind (body s) (loop n cond body) else .ok s

/-- `for { … break / continue / return err … }`: the body yields the new state and whether to go round
again; exceeding the bound on the number of iterations is `panic` -/
def loopB {σ : Type} (fuel : Nat) (body : σ → Res (σ × Bool)) (s : σ) : Res σ :=
  match fuel with
  | 0 => .panic
  | n + 1 => bind (body s) fun r => if r.2 then loopB n body r.1 else .ok r.1

/-- `c.ReadInt32()` on a connection whose pending input is `inp`: four bytes, little endian; a short input is an error -/
def readI32 (inp : List UInt8) : Res (Int32 × List UInt8) :=
  match Wire.decI32 inp with
  | none => .err
  | some r => .ok r

/-- `c.ReadByte()` -/
def readByte (inp : List UInt8) : Res (UInt8 × List UInt8) :=
  match inp with
  | [] => .err
  | b :: rest => .ok (b, rest)

/-- `binary.Read(r, binary.LittleEndian, &u32)` -/
def readU32 (inp : List UInt8) : Res (UInt32 × List UInt8) :=
  if inp.length < 4 then .err else .ok (UInt32.ofNat (Wire.leVal (inp.take 4)), inp.drop 4)

/-- `binary.Read(r, binary.LittleEndian, &i64)` -/
def readI64 (inp : List UInt8) : Res (Int × List UInt8) :=
  if inp.length < 8 then .err else .ok ((UInt64.ofNat (Wire.leVal (inp.take 8))).toInt64.toInt, inp.drop 8)

/-- `f.Read(buf)` on a file whose unread content is `rest`: at the end of the file `(0, io.EOF)`; otherwise
between 1 and `min (len buf) (len rest)` bytes arrive — how many is up to the file system (the head of `sched`,
clamped; everything that fits once the schedule is exhausted) — and land at the start of `buf`. A reader may report
the end of the file *together with* the last bytes (`eager`; `io.Reader` allows it, `os` files never do, an `fs.FS`
may) or only by the next call. Readers that return nothing without an error for a non-empty buffer are outside this
model. Result: n, the buffer, the unread rest, the rest of the schedule, whether `err == io.EOF`. -/
def readSome (rest : List UInt8) (sched : List Nat) (buf : List UInt8) (eager : Bool) :
    Res (Int × List UInt8 × List UInt8 × List Nat × Bool) :=
  if rest = [] then .ok (0, buf, rest, sched, true)
  else
    let cap := min buf.length rest.length
    let n := min (max (sched.headD cap) 1) cap
    .ok ((n : Int), rest.take n ++ buf.drop n, rest.drop n, sched.tail, eager && (rest.drop n).isEmpty)

/-- `io.ReadFull(conn, buf)` with `len(buf) = n`: all `n` bytes or an error -/
def readFull (inp : List UInt8) (n : Int) : Res (List UInt8 × List UInt8) :=
  if n < 0 ∨ (inp.length : Int) < n then .err else .ok (inp.take n.toNat, inp.drop n.toNat)

/-- `f.ReadAt(buf, off)` with `len(buf) = n` on a file with content `b`: all `n` bytes or an error
(an empty buffer reads nothing and succeeds) -/
def readAt (b : List UInt8) (off n : Int) : Res (List UInt8) :=
  if n = 0 then .ok []
  else if 0 ≤ off ∧ 0 ≤ n ∧ off + n ≤ (b.length : Int) then .ok ((b.drop off.toNat).take n.toNat) else .err

/-- `int32(math.Sqrt(float64(n)))` for `0 ≤ n < 2^52`, where the double-precision square root
truncates to the integer square root (assumption recorded in the trusted base; the `sumsizes`
correspondence checks it on `m²-1, m², m²+1`) -/
def sqrtTrunc (n : Int) : Int := (Nat.sqrt n.toNat : Int)

/-- `t.Truncate(time.Second)` on a time given in nanoseconds: rounds down to a whole second -/
def truncSec (ns : Int) : Int := ns - ns % 1000000000

/-- what a translated function wrote to the connection (for functions translated with an output log) -/
inductive Out where
  | i32 (v : Int32)
  | bytes (b : List UInt8)
deriving Repr, DecidableEq

/-- what the sender keeps of one block of the receiver's file (`rsync.SumBuf`) -/
structure SumRec where
  index : Int32
  offset : Int
  len : Int
  sum1 : UInt32
  sum2 : List UInt8
deriving Repr, DecidableEq

/-- a received file-list entry (receiver/flist.go `File`): the fields the translated code assigns; names and link
targets are byte strings, the modification time is the 32-bit number of seconds read from the wire -/
structure FileRec where
  name : List UInt8
  length : Int
  modTime : Int32
  mode : Int32
  uid : Int32
  gid : Int32
  rdev : Int32
  linkTarget : List UInt8
  checksum : List UInt8
deriving Repr, DecidableEq

/-- `ms.ptr(off, n)` for a request inside the file: the file's bytes (what `MapFile.ptr_correct` proves of the real function) -/
def fileSlice (file : List UInt8) (off n : Int) : List UInt8 := (file.drop off.toNat).take n.toNat

/-- hand model of the read loop at the end of `mapStruct.ptr` (`for readSize > 0 { n, err :=
ms.f.Read(ms.window[readOffset:readOffset+readSize]) … }`): the file is read sequentially from the
descriptor's offset; reaching the end of the file before `readSize` bytes arrived is an error
("file has changed mid-transfer"); short reads are invisible at this level. -/
def readLoop (file window : List UInt8) (fdOff readOff readSize : Int) : Res (List UInt8 × Int) :=
  if readOff < 0 ∨ readOff + readSize > (window.length : Int) then .panic
  else if fdOff < 0 ∨ fdOff + readSize > (file.length : Int) then .err
  else .ok (window.take readOff.toNat ++ ((file.drop fdOff.toNat).take readSize.toNat ++ window.drop (readOff + readSize).toNat),
            fdOff + readSize)

/-! ## Sequencing -/

theorem bind_assoc {α β γ : Type} (m : Res α) (f : α → Res β) (g : β → Res γ) :
    bind (bind m f) g = bind m fun a => bind (f a) g := by
  cases m <;> rfl

theorem bind_ite {α β : Type} (c : Prop) [Decidable c] (x y : Res α) (k : α → Res β) :
    bind (if c then x else y) k = if c then bind x k else bind y k := by
  split <;> rfl

theorem bind_ite_ok {α β : Type} (c : Prop) [Decidable c] (a b : α) (k : α → Res β) :
    bind (if c then .ok a else .ok b) k = k (if c then a else b) := by
  split <;> rfl

theorem bind_ite_err {α β : Type} (c : Prop) [Decidable c] (x : Res α) (k : α → Res β) :
    bind (if c then .err else x) k = if c then .err else bind x k := by
  split <;> rfl

theorem bind_ok_pair {α β : Type} (m : Res (α × β)) : bind m (fun x => .ok (x.1, x.2)) = m := by
  cases m <;> rfl

theorem bind_spec {α β : Type} {r : Res α} {f : α → Res β} {Q : α → Prop} {P : β → Prop}
    (hr : ∃ a, r = .ok a ∧ Q a) (hf : ∀ a, Q a → ∃ b, f a = .ok b ∧ P b) : ∃ b, bind r f = .ok b ∧ P b := by
  obtain ⟨a, rfl, ha⟩ := hr
  exact hf a ha

/-! ## What the primitives do on the inputs the tie proofs meet -/

/-- stated with `drop`: a statement with `b[n]` has the bound proved by a tactic at every occurrence, which is slow to
elaborate -/
theorem idx_of_drop {b : List UInt8} {n : Nat} {x : UInt8} {rest : List UInt8} (h : b.drop n = x :: rest) :
    idx b (n : Int) = .ok x := by
  have : b[n]? = some x := by rw [← List.head?_drop, h]; rfl
  simp [idx, this]

theorem _root_.List.drop_succ_of_drop {α : Type} {l : List α} {n : Nat} {x : α} {rest : List α} (h : l.drop n = x :: rest) :
    l.drop (n + 1) = rest := by
  rw [← List.drop_drop, h]; rfl

theorem _root_.List.take_drop_take {α : Type} (l : List α) {n a k : Nat} (h : a + k ≤ n) :
    ((l.take n).drop a).take k = (l.drop a).take k := by
  rw [List.drop_take, List.take_take, Nat.min_eq_left (by omega)]

theorem slice_ok {b : List UInt8} {lo hi : Int} (h0 : 0 ≤ lo) (h1 : lo ≤ hi) (h2 : hi ≤ (b.length : Int)) :
    slice b lo hi = .ok ((b.drop lo.toNat).take (hi - lo).toNat) :=
  if_pos ⟨h0, h1, h2⟩

theorem slice_from {b : List UInt8} {n : Nat} (h : n ≤ b.length) : slice b (n : Int) (b.length : Int) = .ok (b.drop n) := by
  rw [slice_ok (Int.natCast_nonneg n) (Int.ofNat_le.mpr h) (Int.le_refl _), Int.toNat_natCast, List.take_of_length_le]
  rw [List.length_drop, ← Int.natCast_sub h, Int.toNat_natCast]
  exact Nat.le_refl _

theorem slice_to {b : List UInt8} {n : Nat} (h : n ≤ b.length) : slice b 0 (n : Int) = .ok (b.take n) := by
  rw [slice_ok (Int.le_refl 0) (Int.natCast_nonneg n) (Int.ofNat_le.mpr h)]; rfl

theorem make_ok {n : Int} (h : 0 ≤ n) : make n = .ok (List.replicate n.toNat 0) :=
  if_neg (Int.not_lt.mpr h)

@[simp] theorem make_natCast (n : Nat) : make (n : Int) = .ok (List.replicate n 0) :=
  make_ok (Int.natCast_nonneg n)

/-- a length read from the wire as an `int32`, checked against `[0, hi)`, then `make([]byte, v)` -/
theorem make_checked {β : Type} (v hi : Int32) (k : List UInt8 → Res β) :
    (if (decide (v < 0) || decide (v ≥ hi)) = true then Res.err else bind (make v.toInt) k) =
      if v < 0 ∨ v.toInt ≥ hi.toInt then Res.err else k (List.replicate v.toInt.toNat 0) := by
  simp only [Bool.or_eq_true, decide_eq_true_eq, ge_iff_le, Int32.le_iff_toInt_le]
  refine ite_congr rfl (fun _ => rfl) fun h => ?_
  have : ¬ v.toInt < (0 : Int32).toInt := fun h' => h (Or.inl (Int32.lt_iff_toInt_lt.mpr h'))
  rw [make_ok (Int.not_lt.mp this), bind_ok]

@[simp] theorem copy_length (dst src : List UInt8) : (copy dst src).length = dst.length := by
  simp only [copy, List.length_append, List.length_take, List.length_drop]; omega

theorem copy_short {dst src : List UInt8} (h : src.length ≤ dst.length) : copy dst src = src ++ dst.drop src.length := by
  rw [copy, List.take_of_length_le h, Nat.min_eq_right h]

theorem readFull_natCast (inp : List UInt8) (n : Nat) :
    readFull inp (n : Int) = if inp.length < n then .err else .ok (inp.take n, inp.drop n) := by
  unfold readFull
  by_cases h : inp.length < n
  · rw [if_pos (Or.inr (by omega)), if_pos h]
  · rw [if_neg (by omega), if_neg h, Int.toNat_natCast]

theorem readAt_natCast (b : List UInt8) (off n : Nat) :
    readAt b (off : Int) (n : Int) =
      if n = 0 then .ok [] else if off + n ≤ b.length then .ok ((b.drop off).take n) else .err := by
  simp only [readAt, Int.natCast_eq_zero, Int.natCast_nonneg, true_and, ← Int.natCast_add, Int.ofNat_le, Int.toNat_natCast]

theorem readFull_append (s r : List UInt8) : readFull (s ++ r) (s.length : Int) = .ok (s, r) := by
  simp [readFull_natCast]

theorem readI32_encI32 (v : Int32) (r : List UInt8) : readI32 (Wire.encI32 v ++ r) = .ok (v, r) := by
  rw [readI32, Wire.decI32_encI32]

theorem readLoop_ok {file window : List UInt8} {fdOff readOff readSize : Int} (h0 : 0 ≤ readOff)
    (h1 : readOff + readSize ≤ window.length) (h2 : 0 ≤ fdOff) (h3 : fdOff + readSize ≤ file.length) :
    readLoop file window fdOff readOff readSize
      = .ok (window.take readOff.toNat ++ (fileSlice file fdOff readSize ++ window.drop (readOff + readSize).toNat),
          fdOff + readSize) := by
  rw [readLoop, if_neg (by omega), if_neg (by omega)]
  rfl

theorem fileSlice_length {file : List UInt8} {off n : Int} (h0 : 0 ≤ off) (h : off + n ≤ file.length) :
    (fileSlice file off n).length = n.toNat := by
  simp only [fileSlice, List.length_take, List.length_drop]
  omega

theorem fileSlice_append {file : List UInt8} {off a b : Int} (h0 : 0 ≤ off) (ha : 0 ≤ a) (hb : 0 ≤ b) :
    fileSlice file off a ++ fileSlice file (off + a) b = fileSlice file off (a + b) := by
  simp only [fileSlice, Int.toNat_add h0 ha, Int.toNat_add ha hb, ← List.drop_drop, List.take_add]

theorem fileSlice_drop_take (file : List UInt8) {off : Int} (h0 : 0 ≤ off) {n k c : Nat} (h : k + c ≤ n) :
    ((fileSlice file off n).drop k).take c = fileSlice file (off + k) c := by
  rw [fileSlice, Int.toNat_natCast, List.take_drop_take _ h, List.drop_drop, fileSlice, Int.toNat_add h0 (Int.natCast_nonneg k)]
  rfl

theorem truncSec_add (s a : Int) (h0 : 0 ≤ a) (h1 : a < 1000000000) : truncSec (s * 1000000000 + a) = s * 1000000000 := by
  rw [truncSec, Int.mul_add_emod_self_right, Int.emod_eq_of_lt h0 h1, Int.add_sub_cancel]

/-! ## Loops: one rule per kind, by induction on the fuel; the tie proofs give an invariant and a variant -/

theorem loop_done {σ : Type} {cond : σ → Bool} {body : σ → Res σ} {s : σ} (h : cond s = false) (fuel : Nat) :
    loop fuel cond body s = .ok s := by
  cases fuel <;> simp [loop, h]

theorem loop_rule {σ : Type} {cond : σ → Bool} {body : σ → Res σ} (Inv : σ → Prop) (m : σ → Nat)
    (step : ∀ s, Inv s → cond s = true → ∃ s', body s = .ok s' ∧ Inv s' ∧ m s' < m s) :
    ∀ (fuel : Nat) (s : σ), Inv s → m s ≤ fuel → ∃ r, loop fuel cond body s = .ok r ∧ Inv r ∧ cond r = false := by
  intro fuel
  induction fuel with
  | zero =>
    intro s hi hm
    cases hc : cond s with
    | false => exact ⟨s, loop_done hc 0, hi, hc⟩
    | true => obtain ⟨_, _, _, hlt⟩ := step s hi hc; omega
  | succ n ih =>
    intro s hi hm
    cases hc : cond s with
    | false => exact ⟨s, loop_done hc _, hi, hc⟩
    | true =>
      obtain ⟨s', hb, hi', hlt⟩ := step s hi hc
      obtain ⟨r, hr⟩ := ih s' hi' (by omega)
      exact ⟨r, by rw [loop, if_pos hc, hb]; exact hr.1, hr.2⟩

/-- `for { … }` satisfies every `P` that one unfolding preserves: `k` stands for the rest of the loop, of which `P`
may be assumed on states with a smaller variant; errors and panics of the body need no separate case -/
theorem loopB_rule {σ : Type} {body : σ → Res (σ × Bool)} (m : σ → Nat) (P : σ → Res σ → Prop)
    (step : ∀ (s : σ) (k : σ → Res σ), (∀ s', m s' < m s → P s' (k s')) →
      P s (bind (body s) fun r => if r.2 then k r.1 else .ok r.1)) :
    ∀ (fuel : Nat) (s : σ), m s < fuel → P s (loopB fuel body s) := by
  intro fuel
  induction fuel with
  | zero => intro s h; omega
  | succ n ih => intro s h; exact step s (loopB n body) fun s' h' => ih s' (by omega)

/-! ## Not panicking: a value or an error -/

def Safe {α : Type} (P : α → Prop) : Res α → Prop
  | .ok a => P a
  | .err => True
  | .panic => False

theorem Safe.bind {α β : Type} {x : Res α} {f : α → Res β} {Q : α → Prop} {P : β → Prop}
    (hx : Safe Q x) (hf : ∀ a, Q a → Safe P (f a)) : Safe P (bind x f) := by
  cases x with
  | ok a => exact hf a hx
  | err => trivial
  | panic => exact hx

theorem Safe.ne_panic {α : Type} {P : α → Prop} {x : Res α} (h : Safe P x) : x ≠ .panic := by
  rintro rfl; exact h

theorem Safe.loopB {σ : Type} (s : σ) (m : σ → Nat) {body : σ → Res (σ × Bool)}
    (hg : ∀ s, Safe (fun r => r.2 = true → m r.1 < m s) (body s)) :
    Safe (fun _ => True) (loopB (m s + 1) body s) :=
  loopB_rule m (fun _ r => Safe (fun _ => True) r)
    (fun s k ih => (hg s).bind fun r hr => by
      split
      · exact ih r.1 (hr ‹_›)
      · trivial)
    (m s + 1) s (Nat.lt_succ_self _)

theorem readI32_safe (inp : List UInt8) : Safe (fun p => p.2.length < inp.length) (readI32 inp) := by
  unfold readI32 Wire.decI32
  by_cases h : inp.length < 4
  · rw [if_pos h]; trivial
  · rw [if_neg h]
    show (inp.drop 4).length < _
    rw [List.length_drop]
    omega

theorem readByte_safe (inp : List UInt8) : Safe (fun p => p.2.length ≤ inp.length) (readByte inp) := by
  cases inp with
  | nil => trivial
  | cons b r => exact Nat.le_succ _

theorem readFull_safe (inp : List UInt8) (n : Int) : Safe (fun p => p.2.length ≤ inp.length) (readFull inp n) := by
  unfold readFull
  split
  · trivial
  · exact (List.drop_sublist _ _).length_le

end Go

/-! ## 32-bit arithmetic where it does not wrap: comparisons become facts about `toInt` by
`Int32.lt_iff_toInt_lt`, `Int32.le_iff_toInt_le`, `← Int32.toInt_inj` (literals by `simp`), and then -/
namespace Int32

theorem toInt_add_of_bounds {a b : Int32} (h1 : -2 ^ 31 ≤ a.toInt + b.toInt) (h2 : a.toInt + b.toInt < 2 ^ 31) :
    (a + b).toInt = a.toInt + b.toInt := by
  rw [toInt_add]; exact Int.bmod_eq_of_le h1 h2

theorem toInt_sub_of_bounds {a b : Int32} (h1 : -2 ^ 31 ≤ a.toInt - b.toInt) (h2 : a.toInt - b.toInt < 2 ^ 31) :
    (a - b).toInt = a.toInt - b.toInt := by
  rw [toInt_sub]; exact Int.bmod_eq_of_le h1 h2

theorem toInt_neg_of_bounds {a : Int32} (h : -2 ^ 31 < a.toInt) : (-a).toInt = -a.toInt := by
  rw [toInt_neg]; exact Int.bmod_eq_of_le (Int.neg_le_neg (Int.le_of_lt a.toInt_lt)) (Int.neg_lt_of_neg_lt h)

theorem toInt_max (a b : Int32) : (max a b).toInt = max a.toInt b.toInt := by
  rw [Int.max_def, ← apply_ite]
  simp only [← Int32.le_iff_toInt_le]
  rfl

end Int32
