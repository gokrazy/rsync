import RsyncModel.Ssh
/-! The regenerated shape facts of the SSH front end and of `maincmd.Main` are the ones the model
stands for (hand-written expectations; a reshaped guard, a new request type, a changed dispatch
order or a different definition of "anonymous" changes the regenerated text). -/
namespace SshSpec
open Gen.Ssh

def factsOk : Bool :=
  requestCases == ["env", "exec"] && requestRunsMain == ["false", "true"] && requestDefaultIsError &&
  execGuards == ["err != nil => returns-error", "err != nil => returns-error", "len(cmdline) == 0 => returns-error",
    "s.anonssh.anonymous && (len(cmdline) < 3 || cmdline[1] != \"--server\" || cmdline[2] != \"--daemon\") => returns-error"] &&
  execOrder == "guards-then-main" && execMainArgs == "cmdline, s.channel, s.channel, stderr" &&
  channelCases == ["session"] && channelDefaultRejects &&
  anonymousDef == "listener.authorizedKeys == nil" &&
  publicKeyCallback == ["if listener.authorizedKeys == nil => accept", "if listener.authorizedKeys[string(pubKey.Marshal())] => accept", "reject"] &&
  loadKeysGuard == "cfg.AuthorizedSSH.Address != \"\"" &&
  keyLineSkip == "tr := strings.TrimSpace(s.Text()); tr == \"\" || strings.HasPrefix(tr, \"#\")" &&
  keyStored == "result[string(pubKey.Marshal())] = true" && keyMapInit == "result := make(map[string]bool)" &&
  sshCallbacksIntoMain == 2 && mainParsesArgsTail &&
  mainDispatch.take 3 == ["if opts.Daemon() && opts.Server() => daemon-over-shell (returns)",
    "if opts.Server() => command-mode-server (returns)", "if !opts.Daemon() => client (returns)"] &&
  -- the daemon an SSH session starts is built from the listener's configuration only: its modules are
  -- `cfg.Modules`, and nothing in the branch consults the command line for more (a module map, another file)
  daemonOverShellCalls == ["rsyncdconfig.FromDefaultFiles", "rsyncd.WithStderr", "append", "rsyncd.DontRestrict",
    "rsyncd.NewServer(cfg.Modules, …)", "rsyncd.NewConnection", "srv.HandleDaemonConn"]

-- both sides of every comparison are the same literal once the regenerated constants are unfolded; evaluating the
-- comparisons instead makes the kernel decode every string
theorem facts_ok : factsOk = true := by
  simp only [factsOk, requestCases, requestRunsMain, requestDefaultIsError, execGuards, execOrder, execMainArgs,
    channelCases, channelDefaultRejects, anonymousDef, publicKeyCallback, loadKeysGuard, keyLineSkip, keyStored, keyMapInit,
    sshCallbacksIntoMain, mainParsesArgsTail, mainDispatch, daemonOverShellCalls, List.take_succ_cons, List.take_zero,
    beq_self_eq_true, Bool.and_self]

end SshSpec
