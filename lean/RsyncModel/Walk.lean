/-! A directory tree as the flat pre-order listing that `fs.WalkDir` visits (children sorted by
name, a directory before its contents), and the `--delete` walk of receiver/do.go over it. -/
namespace Walk

abbrev Name := List UInt8
abbrev Path := List Name            -- components below the root; the root itself is []

/-- `q` is a proper ancestor of `p` -/
def under (q p : Path) : Bool := q.isPrefixOf p && q.length < p.length

structure Ent where
  path  : Path
  isDir : Bool

/-- The delete walk with the per-entry decision of the `fs.WalkDir` callback in `deleteFiles`
(do.go) *after* the D8 repair: an entry that is not in the file list is removed with its subtree
(RemoveAll) and the walk does not descend into it; everything else is visited. Returns the removed
roots, in visiting order. -/
def delWalk (listed : Path → Bool) : List Ent → List Path
  | [] => []
  | e :: rest =>
    if listed e.path then delWalk listed rest
    else e.path :: delWalk listed (rest.dropWhile (fun x => under e.path x.path))
termination_by l => l.length
decreasing_by
  · simp
  · have := (List.dropWhile_sublist (l := rest) (fun x => under e.path x.path)).length_le
    simp; omega

/-- The walk as the pinned tree has it (D8): `fs.SkipDir` is returned for *every* removed entry;
for a file WalkDir then abandons the rest of the containing directory. -/
def delWalkD8 (listed : Path → Bool) : List Ent → List Path
  | [] => []
  | e :: rest =>
    if listed e.path then delWalkD8 listed rest
    else if e.isDir then e.path :: delWalkD8 listed (rest.dropWhile (fun x => under e.path x.path))
    else e.path :: delWalkD8 listed (rest.dropWhile (fun x => under e.path.dropLast x.path))
termination_by l => l.length
decreasing_by
  · simp
  · have := (List.dropWhile_sublist (l := rest) (fun x => under e.path x.path)).length_le
    simp; omega
  · have := (List.dropWhile_sublist (l := rest) (fun x => under e.path.dropLast x.path)).length_le
    simp; omega

/-- pre-order shape: whatever lies under an entry follows it contiguously -/
def PreOrder : List Ent → Prop
  | [] => True
  | e :: rest =>
    (∀ x ∈ rest.dropWhile (fun x => under e.path x.path), under e.path x.path = false) ∧
    (∀ x ∈ rest, under x.path e.path = false) ∧ PreOrder rest

theorem preOrder_dropWhile (p : Ent → Bool) : ∀ l, PreOrder l → PreOrder (l.dropWhile p)
  | [], _ => by simp [PreOrder]
  | e :: rest, h => by
    simp only [List.dropWhile_cons]
    split
    · exact preOrder_dropWhile p rest h.2.2
    · exact h

theorem delWalk_sound (listed : Path → Bool) (l : List Ent) :
    ∀ p ∈ delWalk listed l, listed p = false ∧ ∃ e ∈ l, e.path = p := by
  induction l using delWalk.induct listed with
  | case1 => simp [delWalk]
  | case2 e rest hl ih =>
    rw [delWalk, if_pos hl]
    intro p hp
    obtain ⟨h1, e', he', h2⟩ := ih p hp
    exact ⟨h1, e', List.mem_cons_of_mem _ he', h2⟩
  | case3 e rest hl ih =>
    rw [delWalk, if_neg hl]
    intro p hp
    rcases List.mem_cons.mp hp with rfl | hp
    · exact ⟨by simpa using hl, e, List.mem_cons_self, rfl⟩
    · obtain ⟨h1, e', he', h2⟩ := ih p hp
      exact ⟨h1, e', List.mem_cons_of_mem _ (List.dropWhile_subset _ he'), h2⟩

theorem delWalk_no_nested (listed : Path → Bool) (l : List Ent) (hpo : PreOrder l) :
    ∀ p ∈ delWalk listed l, ∀ q ∈ delWalk listed l, under q p = false := by
  induction l using delWalk.induct listed with
  | case1 => simp [delWalk]
  | case2 e rest hl ih =>
    rw [delWalk, if_pos hl]; exact ih hpo.2.2
  | case3 e rest hl ih =>
    rw [delWalk, if_neg hl]
    have hrest := preOrder_dropWhile (fun x => under e.path x.path) rest hpo.2.2
    intro p hp q hq
    rcases List.mem_cons.mp hp with rfl | hp <;> rcases List.mem_cons.mp hq with rfl | hq
    · simp [under]
    · -- q was visited after e, so it is a later entry; an entry never lies under a later one
      obtain ⟨_, e', he', rfl⟩ := delWalk_sound listed _ _ hq
      exact hpo.2.1 e' (List.dropWhile_subset _ he')
    · obtain ⟨_, e', he', rfl⟩ := delWalk_sound listed _ p hp
      exact hpo.1 e' he'
    · exact ih hrest p hp q hq

theorem of_mem_takeWhile {α} (p : α → Bool) : ∀ (l : List α) (a : α), a ∈ l.takeWhile p → p a = true :=
  fun _ a h => List.all_eq_true.mp List.all_takeWhile a h

theorem mem_dropWhile {α} (p : α → Bool) {l : List α} {a : α} (h : a ∈ l) (hp : p a = false) : a ∈ l.dropWhile p := by
  rw [← List.takeWhile_append_dropWhile (p := p) (l := l)] at h
  exact (List.mem_append.mp h).resolve_left fun ht => by rw [of_mem_takeWhile p l a ht] at hp; cases hp

theorem delWalk_complete (listed : Path → Bool) (l : List Ent) :
    ∀ e ∈ l, listed e.path = false → (∀ x ∈ l, under x.path e.path = true → listed x.path = true) →
      e.path ∈ delWalk listed l := by
  induction l using delWalk.induct listed with
  | case1 => simp
  | case2 h rest hl ih =>
    rw [delWalk, if_pos hl]
    intro e he hun hanc
    rcases List.mem_cons.mp he with rfl | he
    · rw [hun] at hl; exact absurd hl (by simp)
    · exact ih e he hun (fun x hx => hanc x (List.mem_cons_of_mem _ hx))
  | case3 h rest hl ih =>
    rw [delWalk, if_neg hl]
    intro e he hun hanc
    rcases List.mem_cons.mp he with rfl | he
    · exact List.mem_cons_self
    · -- e does not lie under the unlisted head, since all its ancestors are listed: it is not skipped
      have hu : under h.path e.path = false := Bool.eq_false_iff.mpr fun hu => hl (hanc h List.mem_cons_self hu)
      exact List.mem_cons_of_mem _ (ih e (mem_dropWhile _ he hu) hun fun x hx =>
        hanc x (List.mem_cons_of_mem _ (List.dropWhile_subset _ hx)))

/-- D8 as a kernel-checked counterexample: two extraneous files in one directory — the repaired
walk removes both, the pinned tree's walk removes only the first. -/
def twoFiles : List Ent := [⟨[[97]], false⟩, ⟨[[98]], false⟩]
example : delWalk (fun _ => false) twoFiles = [[[97]], [[98]]] := by
  simp [twoFiles, delWalk, under]
example : delWalkD8 (fun _ => false) twoFiles = [[[97]]] := by
  simp [twoFiles, delWalkD8, under]

end Walk
