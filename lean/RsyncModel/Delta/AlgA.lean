import RsyncModel.Delta.Spec
/-! Algorithm level A: what the Go loop does to *tokens*: it accumulates unmatched bytes in a pending
run, emits the run (split into chunks by some policy) before each block reference and at the end,
and may flush part of the run early. The split/flush policy is a parameter: the theorem holds for
every policy, so a change of `chunkSize` or of the flush condition cannot break it. -/
namespace Spec

inductive ATok
  | lits (bs : Bytes)
  | ref (i : Nat)

def flat : List ATok → List Tok
  | [] => []
  | ATok.lits bs :: r => bs.map Tok.lit ++ flat r
  | ATok.ref i :: r => Tok.ref i :: flat r

theorem flat_append (a b : List ATok) : flat (a ++ b) = flat a ++ flat b := by
  induction a with
  | nil => rfl
  | cons x xs ih => cases x <;> simp [flat, ih]

structure Chunker where
  cut : Bytes → List Bytes
  ok : ∀ bs, (cut bs).flatten = bs

def emitRun (ch : Chunker) (bs : Bytes) : List ATok := (ch.cut bs).map ATok.lits

theorem flat_emitRun (ch : Chunker) (bs : Bytes) : flat (emitRun ch bs) = bs.map Tok.lit := by
  unfold emitRun
  have h := ch.ok bs
  generalize ch.cut bs = pieces at h
  subst h
  induction pieces with
  | nil => rfl
  | cons p ps ih => simp [flat, ih]

/-- an early-flush policy: given the pending run and what is left, how many leading bytes of the
run to emit now (the Go code flushes `pend` minus the last `bl` bytes when it got long) -/
abbrev Flusher := Bytes → Bytes → Nat

def algA (c : Ctx) (p : Pick c) (ch : Chunker) (fl : Flusher) (pend : Bytes) : (rest : Bytes) → List ATok
  | [] => emitRun ch pend
  | x :: xs =>
    match p.f (c.win (x :: xs)) with
    | some i => emitRun ch pend ++ ATok.ref i :: algA c p ch fl [] ((x :: xs).drop (c.win (x :: xs)).length)
    | none =>
      let pend' := pend ++ [x]
      let n := fl pend' xs
      emitRun ch (pend'.take n) ++ algA c p ch fl (pend'.drop n) xs
termination_by rest => rest.length
decreasing_by
  · have := win_length_pos c x xs
    simp only [List.length_drop]; simp at *; omega
  · simp

theorem algA_refines (c : Ctx) (p : Pick c) (ch : Chunker) (fl : Flusher) (pend rest : Bytes) :
    flat (algA c p ch fl pend rest) = pend.map Tok.lit ++ greedy c p rest := by
  induction pend, rest using algA.induct c p fl with
  | case1 pend => simp [algA, greedy, flat_emitRun]
  | case2 pend x xs i hpick ih =>
    rw [algA, hpick, greedy, hpick]
    simp [flat_append, flat_emitRun, flat, ih]
  | case3 pend x xs hpick pend' n ih =>
    rw [algA, hpick, greedy, hpick]
    dsimp only
    rw [flat_append, flat_emitRun, ih]
    rw [← List.append_assoc, ← List.map_append, List.take_append_drop]
    simp

theorem algA_correct (c : Ctx) (p : Pick c) (ch : Chunker) (fl : Flusher) (t : Bytes) :
    flat (algA c p ch fl [] t) = greedy c p t := by
  simpa using algA_refines c p ch fl [] t

theorem mem_algA (c : Ctx) (p : Pick c) (ch : Chunker) (fl : Flusher) (t : ATok) (pend rest : Bytes)
    (h : t ∈ algA c p ch fl pend rest) :
    (∃ bs, t ∈ emitRun ch bs) ∨ ∃ w i, t = .ref i ∧ p.f w = some i := by
  induction pend, rest using algA.induct c p fl with
  | case1 pend => rw [algA] at h; exact .inl ⟨_, h⟩
  | case2 pend x xs i hpick ih =>
    rw [algA, hpick] at h
    simp only [List.mem_append, List.mem_cons] at h
    rcases h with h | rfl | h
    · exact .inl ⟨_, h⟩
    · exact .inr ⟨_, _, rfl, hpick⟩
    · exact ih h
  | case3 pend x xs hpick pend' n ih =>
    rw [algA, hpick] at h
    simp only [List.mem_append] at h
    exact h.elim (fun h => .inl ⟨_, h⟩) ih

end Spec
