import RsyncModel.Delta.Spec
/-! The weak (rolling) checksum: its two sums over the bytes read as signed, as unbounded integers
(`S1`, `S2`); the `uint32` values the Go code holds, as their residues modulo 2¹⁶ (`Cong`, `lo16`);
and the one-byte window update of `hashSearch` (`rollStep`, `dropStep`), exact on those residues. -/
namespace Spec

/-- a byte read as `signed char`, which is how rsync sums the buffer (`SignExtend`, as an integer) -/
def sx (b : UInt8) : Int := if b.toNat < 128 then (b.toNat : Int) else (b.toNat : Int) - 256
def S1 : List UInt8 → Int | [] => 0 | b :: bs => sx b + S1 bs
def S2 : List UInt8 → Int | [] => 0 | b :: bs => (bs.length + 1 : Int) * sx b + S2 bs

theorem S1_append (a b : List UInt8) : S1 (a ++ b) = S1 a + S1 b := by
  induction a with
  | nil => simp [S1]
  | cons x xs ih => rw [List.cons_append, S1, S1, ih, Int.add_assoc]
theorem S2_append_single (a : List UInt8) (y : UInt8) : S2 (a ++ [y]) = S2 a + S1 a + sx y := by
  induction a with
  | nil => simp [S1, S2]
  | cons x xs ih =>
    simp only [List.cons_append, S2, S1, ih, List.length_append, List.length_cons, List.length_nil]
    grind

/-- `SignExtend` (rsyncchecksum.go): `uint32(int32(val<<24) >> 24)` -/
def signExtend (b : UInt8) : UInt32 := ((b.toUInt32 <<< 24).toInt32 >>> 24).toUInt32
/-- `Cong` as a `Bool`, so that `decide` can run through the 256 bytes in `signExtend_all`; the proofs
use `signExtend_cong` -/
def congB (m : UInt32) (z : Int) : Bool := (m.toNat : Int) % 65536 == z % 65536
theorem signExtend_all : ∀ n : Fin 256,
    congB (signExtend (UInt8.ofNat n.val)) (sx (UInt8.ofNat n.val)) = true := by decide +kernel

/-- the `uint32` value `m` stands for the integer `z`: equal modulo 2¹⁶, all the Go code keeps of a sum -/
def Cong (m : UInt32) (z : Int) : Prop := (m.toNat : Int) % 65536 = z % 65536

/-- `uint32` arithmetic is arithmetic modulo 2³², and 2¹⁶ divides 2³² -/
theorem cong_of_toNat {m : UInt32} {n : Nat} {z : Int} (hm : m.toNat = n % 2 ^ 32)
    (hn : (n : Int) % 65536 = z % 65536) : Cong m z := by
  rw [Cong, hm, Int.natCast_emod, Int.emod_emod_of_dvd _ (by decide), hn]

theorem cong_add {a b : UInt32} {x y : Int} (h1 : Cong a x) (h2 : Cong b y) : Cong (a + b) (x + y) :=
  cong_of_toNat (UInt32.toNat_add a b) (by rw [Int.natCast_add, Int.add_emod, h1, h2, ← Int.add_emod])
theorem cong_mul {a b : UInt32} {x y : Int} (h1 : Cong a x) (h2 : Cong b y) : Cong (a * b) (x * y) :=
  cong_of_toNat (UInt32.toNat_mul a b) (by rw [Int.natCast_mul, Int.mul_emod, h1, h2, ← Int.mul_emod])
theorem cong_sub {a b : UInt32} {x y : Int} (h1 : Cong a x) (h2 : Cong b y) : Cong (a - b) (x - y) := by
  rw [UInt32.sub_eq_add_neg, UInt32.neg_eq_neg_one_mul, Int.sub_eq_add_neg, Int.neg_eq_neg_one_mul]
  exact cong_add h1 (cong_mul (by unfold Cong; decide) h2)
theorem cong_trunc16 {a : UInt32} {x : Int} (h : Cong a x) : Cong a.toUInt16.toUInt32 x := by
  rw [Cong, UInt16.toNat_toUInt32, UInt32.toNat_toUInt16, Int.natCast_emod, Int.emod_emod_of_dvd _ (by decide)]
  exact h
theorem signExtend_cong (x : UInt8) : Cong (signExtend x) (sx x) := by
  have := signExtend_all ⟨x.toNat, x.toNat_lt⟩; simpa [congB, Cong] using this

/-- canonical 16-bit representative of an integer, as the Go code keeps it in a uint32 -/
def lo16 (z : Int) : UInt32 := UInt32.ofNat (z % 65536).toNat

theorem lo16_cong (z : Int) : Cong (lo16 z) z :=
  cong_of_toNat UInt32.toNat_ofNat' (by rw [Int.toNat_of_nonneg (Int.emod_nonneg z (by decide)), Int.emod_emod])

theorem eq_lo16_of_cong {a : UInt32} {z : Int} (h : Cong a z) (hlt : a.toNat < 65536) : a = lo16 z := by
  rw [lo16, ← h, Int.emod_eq_of_lt (by omega) (by omega), Int.toNat_natCast, UInt32.ofNat_toNat]

theorem trunc16_lt (a : UInt32) : a.toUInt16.toUInt32.toNat < 65536 := by
  rw [UInt16.toNat_toUInt32]; exact a.toUInt16.toNat_lt

theorem trunc16_eq_lo16 {a : UInt32} {z : Int} (h : Cong a z) : a.toUInt16.toUInt32 = lo16 z :=
  eq_lo16_of_cong (cong_trunc16 h) (trunc16_lt a)

/-- the pair the Go loop holds for a window -/
def wsum (w : Bytes) : UInt32 × UInt32 := (lo16 (S1 w), lo16 (S2 w))

/-- the rolling update of `hashSearch` (match.go), `more` branch -/
def rollStep (s1 s2 k : UInt32) (old new : UInt8) : UInt32 × UInt32 :=
  let s1 := s1 - signExtend old
  let s2 := s2 - k * signExtend old
  let s1 := s1 + signExtend new
  let s2 := s2 + s1
  (s1.toUInt16.toUInt32, s2.toUInt16.toUInt32)

/-- the rolling update of `hashSearch` (match.go), no further byte: the window only shrinks -/
def dropStep (s1 s2 k : UInt32) (old : UInt8) : UInt32 × UInt32 :=
  let s1 := s1 - signExtend old
  let s2 := s2 - k * signExtend old
  (s1.toUInt16.toUInt32, s2.toUInt16.toUInt32)

theorem cong_drop (x : UInt8) (w : Bytes) (k : UInt32) (hk : Cong k (w.length + 1 : Int)) :
    Cong ((wsum (x :: w)).1 - signExtend x) (S1 w) ∧ Cong ((wsum (x :: w)).2 - k * signExtend x) (S2 w) := by
  have e1 : S1 (x :: w) - sx x = S1 w := by rw [S1, Int.add_comm, Int.add_sub_cancel]
  have e2 : S2 (x :: w) - (w.length + 1 : Int) * sx x = S2 w := by rw [S2, Int.add_comm, Int.add_sub_cancel]
  exact ⟨e1 ▸ cong_sub (lo16_cong _) (signExtend_cong x),
    e2 ▸ cong_sub (lo16_cong _) (cong_mul hk (signExtend_cong x))⟩

theorem cong_push {s1 s2 : UInt32} {w : Bytes} (y : UInt8) (h1 : Cong s1 (S1 w)) (h2 : Cong s2 (S2 w)) :
    Cong (s1 + signExtend y) (S1 (w ++ [y])) ∧ Cong (s2 + (s1 + signExtend y)) (S2 (w ++ [y])) := by
  have h := cong_add h1 (signExtend_cong y)
  rw [S2_append_single, Int.add_assoc, S1_append, S1, S1, Int.add_zero]
  exact ⟨h, cong_add h2 h⟩

theorem rollStep_wsum (x y : UInt8) (w : Bytes) (k : UInt32) (hk : Cong k (w.length + 1 : Int)) :
    rollStep (wsum (x :: w)).1 (wsum (x :: w)).2 k x y = wsum (w ++ [y]) :=
  have ⟨h1, h2⟩ := cong_drop x w k hk
  have ⟨h1', h2'⟩ := cong_push y h1 h2
  Prod.ext (trunc16_eq_lo16 h1') (trunc16_eq_lo16 h2')

theorem dropStep_wsum (x : UInt8) (w : Bytes) (k : UInt32) (hk : Cong k (w.length + 1 : Int)) :
    dropStep (wsum (x :: w)).1 (wsum (x :: w)).2 k x = wsum w :=
  have ⟨h1, h2⟩ := cong_drop x w k hk
  Prod.ext (trunc16_eq_lo16 h1) (trunc16_eq_lo16 h2)

end Spec
