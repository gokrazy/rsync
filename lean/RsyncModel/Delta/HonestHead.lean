import RsyncModel.RecvData
import RsyncModel.Delta.Honest
/-! The header and block table of an honest signature (`SumSizesSqroot` arithmetic:
`count = ⌈n/bl⌉`, `rem = n mod bl`) agree with cutting the basis into blocks, and the receiver's
`ReadAt(idx·bl, len)` reads back exactly those blocks. -/
namespace Delta
open Spec

theorem splitBlocks_getElem? (blm1 : Nat) (i : Nat) (bs : Bytes) :
    (splitBlocks blm1 bs)[i]? =
      if i * (blm1 + 1) < bs.length then some ((bs.drop (i * (blm1 + 1))).take (blm1 + 1)) else none := by
  induction i generalizing bs with
  | zero =>
    rw [splitBlocks]
    by_cases h : bs = [] <;> simp [h, List.length_pos_iff]
  | succ i ih =>
    rw [splitBlocks]
    by_cases h : bs = []
    · simp [h]
    · rw [dif_neg h, List.getElem?_cons_succ, ih, List.length_drop, List.drop_drop, Nat.succ_mul,
        Nat.add_comm (blm1 + 1)]
      simp only [Nat.lt_sub_iff_add_lt]

theorem lt_count_iff (blm1 n i : Nat) : i < (n + blm1) / (blm1 + 1) ↔ i * (blm1 + 1) < n := by
  rw [Nat.lt_iff_add_one_le, Nat.le_div_iff_mul_le (by omega : 0 < blm1 + 1), Nat.add_mul, Nat.one_mul]
  omega

theorem lt_length_splitBlocks (blm1 i : Nat) (bs : Bytes) :
    i < (splitBlocks blm1 bs).length ↔ i * (blm1 + 1) < bs.length := by
  rw [← Nat.not_le, ← List.getElem?_eq_none_iff, splitBlocks_getElem?]
  split <;> simp [*]

theorem splitBlocks_length (blm1 : Nat) (bs : Bytes) :
    (splitBlocks blm1 bs).length = (bs.length + blm1) / (blm1 + 1) := by
  -- two numbers bounding the same set of indices are equal: each criterion is instantiated at both
  have a := lt_length_splitBlocks blm1 ((bs.length + blm1) / (blm1 + 1)) bs
  have b := lt_count_iff blm1 bs.length (splitBlocks blm1 bs).length
  have c := lt_length_splitBlocks blm1 (splitBlocks blm1 bs).length bs
  have d := lt_count_iff blm1 bs.length ((bs.length + blm1) / (blm1 + 1))
  omega

def honestHead (blm1 cs : Nat) (basis : Bytes) : Head :=
  ⟨(basis.length + blm1) / (blm1 + 1), blm1 + 1, cs, basis.length % (blm1 + 1)⟩

theorem blockLen_honest (blm1 cs : Nat) (basis : Bytes) (i : Nat) (hi : i * (blm1 + 1) < basis.length) :
    blockLen (honestHead blm1 cs basis) i = min (blm1 + 1) (basis.length - i * (blm1 + 1)) := by
  -- with `k` bytes left at block `i`: it is the last block iff `k ≤ bl`, and `rem = k mod bl`
  obtain ⟨k, hk⟩ : ∃ k, basis.length = i * (blm1 + 1) + k := ⟨_, (Nat.add_sub_cancel' (Nat.le_of_lt hi)).symm⟩
  have hlast := lt_count_iff blm1 basis.length (i + 1)
  have hthis := (lt_count_iff blm1 basis.length i).mpr hi
  rw [Nat.succ_mul] at hlast
  simp only [blockLen, honestHead, hk, Nat.mul_add_mod_self_right, Nat.add_sub_cancel_left] at hlast hthis hi ⊢
  rcases Nat.lt_trichotomy k (blm1 + 1) with h | h | h
  · rw [Nat.mod_eq_of_lt h, if_pos (by omega)]; omega
  · rw [h, Nat.mod_self, if_neg (by omega)]; omega
  · rw [if_neg (by omega)]; omega

theorem readBlock_honest (blm1 cs : Nat) (basis : Bytes) (i : Nat)
    (hi : i < (honestHead blm1 cs basis).count) :
    Recv.readBlock (honestHead blm1 cs basis) basis i = (splitBlocks blm1 basis)[i]? := by
  have hi' := (lt_count_iff blm1 basis.length i).mp hi
  have hbl : (honestHead blm1 cs basis).bl = blm1 + 1 := rfl
  rw [splitBlocks_getElem?, if_pos hi', Recv.readBlock]
  simp only [blockLen_honest blm1 cs basis i hi', hbl]
  rw [if_neg (by omega), if_pos (by omega), List.take_eq_take_min (i := blm1 + 1), List.length_drop]

end Delta
