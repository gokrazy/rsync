import RsyncModel.Delta.AlgB
import RsyncModel.Checksum
import RsyncModel.Gen.Consts
/-! The sender's delta search instantiated as the Go code runs it (sender.go:19-115, match.go,
token.go): header, block list built by `receiveSums`, the lookup, `chunkSize` cutting, the early
flush — all as an instance of the proved algorithm level `algB`. -/
namespace Delta
open Spec

/-- a validated checksum header (`SumHead` after `ReadFrom` accepted it) -/
structure Head where
  count : Nat
  bl : Nat
  csLen : Nat
  rem : Nat
deriving Repr, DecidableEq

structure Sum where
  sum1 : UInt32
  sum2 : Bytes

/-- `sb.Len` in `receiveSums` (sender.go) and `dataLen` in `receiveData` (receiver.go) -/
def blockLen (h : Head) (i : Nat) : Nat := if i + 1 = h.count ∧ h.rem ≠ 0 then h.rem else h.bl

def mkBlocks (h : Head) (sums : List Sum) : List Block :=
  (List.range sums.length).zipWith (fun i s => ⟨blockLen h i, s.sum1, s.sum2⟩) sums

/-- the context of one file's search: block length `bl` (≥ 1 whenever `count > 0`; for `bl = 0` the
table is empty and the window is 1), truncation length, the blocks, the packed weak sum, the seeded
strong hash `H` (arbitrary) -/
def mkCtx (H : Bytes → Bytes) (h : Head) (sums : List Sum) : Ctx :=
  ⟨h.bl - 1, h.csLen, mkBlocks h sums, fun w => pack (wsum w), H⟩

/-- the candidate loop of `hashSearch` (match.go): candidates with equal packed weak sum, equal
length, equal truncated strong sum; the tag table only pre-filters (equal weak sums have equal
tags), the order among equal candidates is unspecified in Go (unstable sort) — the model takes the
smallest index. -/
def lookGo (c : Ctx) : Look := fun s1 s2 w =>
  (List.range c.blocks.length).find? fun i =>
    match c.blocks[i]? with
    | none => false
    | some b => b.len == w.length && b.sum1 == pack (s1, s2) && b.sum2.take c.csLen == (c.H w).take c.csLen

def chunkSize : Nat := Gen.Consts.chunkSize

/-- `simpleSendToken`: literal runs are cut into pieces of at most `chunkSize` -/
def cutChunks (n : Nat) (bs : Bytes) : List Bytes :=
  if h : n = 0 ∨ bs.length ≤ n then (if bs.isEmpty then [] else [bs])
  else bs.take n :: cutChunks n (bs.drop n)
termination_by bs.length
decreasing_by simp only [List.length_drop]; omega

theorem cutChunks_flatten (n : Nat) (bs : Bytes) : (cutChunks n bs).flatten = bs := by
  induction bs using cutChunks.induct n with
  | case1 bs h he => rw [cutChunks]; simp_all
  | case2 bs h he => rw [cutChunks]; simp_all
  | case3 bs h ih => rw [cutChunks]; simp [h, ih]

theorem cutChunks_nil (n : Nat) : cutChunks n [] = [] := by rw [cutChunks]; simp

theorem cutChunks_step (n : Nat) (hn : 0 < n) (bs : Bytes) (hne : bs ≠ []) :
    cutChunks n bs = bs.take (min n bs.length) :: cutChunks n (bs.drop (min n bs.length)) := by
  rw [cutChunks]
  by_cases h : bs.length ≤ n
  · rw [dif_pos (Or.inr h), Nat.min_eq_right h, List.take_length, List.drop_length, cutChunks_nil, if_neg (by simpa using hne)]
  · rw [dif_neg (by omega), Nat.min_eq_left (by omega)]

def goChunker : Chunker := ⟨cutChunks chunkSize, cutChunks_flatten chunkSize⟩

/-- the intermediate flush of `hashSearch` (match.go): when the pending run reached
`bl + chunkSize` bytes and more than `chunkSize` bytes remain before `end`, everything but the last
`bl` pending bytes is sent -/
def goFlusher (bl lastLen : Nat) : Flusher := fun pend' rest =>
  let backup := pend'.length - 1
  if backup ≥ bl + chunkSize ∧ rest.length + 2 - lastLen > chunkSize then backup - bl else 0

def lastLen (h : Head) : Nat := blockLen h (h.count - 1)

def senderTokens (H : Bytes → Bytes) (h : Head) (sums : List Sum) (t : Bytes) : List ATok :=
  let c := mkCtx H h sums
  algB c (lookGo c) goChunker (goFlusher h.bl (lastLen h)) [] (wsum (c.win t)) t

/-- `SumSizesSqroot` (rsynccommon.go) for lengths below 2^52 (where `int32(math.Sqrt(float64 n))`
is the integer square root) -/
def sumSizes (len : Nat) : Head :=
  let bl := max (Nat.sqrt len) Gen.Consts.blockSize
  ⟨(len + (bl - 1)) / bl, bl, Gen.Consts.checksumLength, len % bl⟩

end Delta
