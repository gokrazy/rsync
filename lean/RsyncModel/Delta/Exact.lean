import RsyncModel.Delta.Spec
/-! Reconstruction from a token stream that describes the target faithfully is exact; the greedy
specification's stream is one. -/
namespace Spec

/-- what a receiver holding blocks `blk i` reconstructs -/
def apply (blk : Nat → Bytes) : List Tok → Bytes
  | [] => []
  | .lit b :: r => b :: apply blk r
  | .ref i :: r => blk i ++ apply blk r

end Spec

namespace Delta
open Spec

/-- the token list describes `t` faithfully: every reference stands where the window matches its block -/
def Justified (c : Ctx) : Bytes → List Tok → Prop
  | t, [] => t = []
  | [], _ :: _ => False
  | x :: xs, .lit b :: r => b = x ∧ Justified c xs r
  | x :: xs, .ref i :: r =>
      c.matches (c.win (x :: xs)) i = true ∧ Justified c ((x :: xs).drop (c.win (x :: xs)).length) r
termination_by t toks => toks.length

theorem greedy_justified (c : Ctx) (p : Pick c) (t : Bytes) : Justified c t (greedy c p t) := by
  induction t using greedy.induct c p with
  | case1 => simp [greedy, Justified]
  | case2 x xs i hp ih =>
    rw [greedy, hp]; simp only
    rw [Justified]
    exact ⟨p.sound _ _ hp, ih⟩
  | case3 x xs hp ih =>
    rw [greedy, hp]; simp only
    rw [Justified]
    exact ⟨rfl, ih⟩

/-- whatever search produced the tokens -/
theorem justified_exact (c : Ctx) (blk : Nat → Bytes) (hfaithful : ∀ w i, c.matches w i = true → blk i = w)
    (t : Bytes) (ts : List Tok) (h : Justified c t ts) : apply blk ts = t := by
  induction t, ts using Justified.induct c with rw [Justified] at h
  | case1 t => rw [h, apply]
  | case2 tok ts => exact h.elim
  | case3 x xs b r ih => rw [apply, ih h.2, h.1]
  | case4 x xs i r ih => rw [apply, ih h.2, hfaithful _ _ h.1, drop_win, win_eq_take, List.take_append_drop]

end Delta

namespace Spec

/-- **Exactness**: if a window that matches block `i` *is* block `i` (honest sums, no strong-hash
collision), applying the greedy token stream reproduces the target. -/
theorem sender_exact (c : Ctx) (p : Pick c) (blk : Nat → Bytes)
    (hfaithful : ∀ w i, c.matches w i = true → blk i = w) (t : Bytes) :
    apply blk (greedy c p t) = t :=
  Delta.justified_exact c blk hfaithful t _ (Delta.greedy_justified c p t)

end Spec
