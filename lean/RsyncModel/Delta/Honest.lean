import RsyncModel.Delta.GoThm
/-! Honest signatures (what `generateAndSendSums` computes for a basis file), and the induction behind
"an identical file costs no literal" (C16). -/
namespace Delta
open Spec

def splitBlocks (blm1 : Nat) (bs : Bytes) : List Bytes :=
  if h : bs = [] then [] else bs.take (blm1 + 1) :: splitBlocks blm1 (bs.drop (blm1 + 1))
termination_by bs.length
decreasing_by
  have : 0 < bs.length := List.length_pos_iff.mpr h
  simp only [List.length_drop]; omega

theorem splitBlocks_flatten (blm1 : Nat) (bs : Bytes) : (splitBlocks blm1 bs).flatten = bs := by
  induction bs using splitBlocks.induct blm1 with
  | case1 => rw [splitBlocks]; simp
  | case2 bs h ih => rw [splitBlocks]; simp [h, ih]

def honestBlocks (W : Bytes → UInt32) (H : Bytes → Bytes) (pieces : List Bytes) : List Block :=
  pieces.map fun w => ⟨w.length, W w, H w⟩

/-- wherever the scan stands at a block boundary of the basis (`pre` the blocks before it), the
token stream for the rest of the basis consists of block references only — duplicated blocks, a
short last block and whatever choice the lookup makes among equal candidates included -/
theorem identical_refs_only (c : Ctx) (p : Pick c) (rest : Bytes) : ∀ (pre : List Block),
    c.blocks = pre ++ honestBlocks c.W c.H (splitBlocks c.blm1 rest) →
    ∀ tok ∈ greedy c p rest, ∃ i, tok = Tok.ref i := by
  induction rest using greedy.induct c p with
  | case1 => simp [greedy]
  | case2 x xs i hp ih =>
    intro pre hb tok htok
    rw [greedy, hp, drop_win] at htok
    rw [drop_win] at ih
    rcases List.mem_cons.mp htok with rfl | h
    · exact ⟨i, rfl⟩
    · refine ih (pre ++ honestBlocks c.W c.H [(x :: xs).take c.bl]) ?_ tok h
      rw [hb, splitBlocks]; simp [honestBlocks, Ctx.bl]
  | case3 x xs hp ih =>
    -- the window at a block boundary is block `|pre|` of the table: the pick cannot have failed
    intro pre hb
    have := p.complete _ hp pre.length
    rw [splitBlocks] at hb
    simp [Ctx.matches, hb, honestBlocks, win_eq_take, Ctx.bl] at this

end Delta
