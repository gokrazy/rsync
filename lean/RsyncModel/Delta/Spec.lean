/-! The specification level of the sender's delta search: the blocks of the receiver's signature,
what it means for a window of the target to match one of them, and the greedy left-to-right scan
that puts a block reference where a match is picked and a literal byte everywhere else. -/
namespace Spec
abbrev Bytes := List UInt8
/-- one entry of the receiver's signature (`SumBuf`) -/
structure Block where
  len  : Nat
  sum1 : UInt32
  sum2 : Bytes
/-- what the sender emits for the target, byte by byte -/
inductive Tok
  | lit (b : UInt8)
  | ref (i : Nat)
deriving DecidableEq
structure Ctx where
  blm1   : Nat              -- block length minus one: the window is never empty
  csLen  : Nat              -- length the strong sums are truncated to (`ChecksumLength`)
  blocks : List Block       -- the receiver's signature, in block order
  W      : Bytes → UInt32   -- weak sum of a window, as compared with `sum1`
  H      : Bytes → Bytes    -- strong sum of a window, before truncation
def Ctx.bl (c : Ctx) : Nat := c.blm1 + 1
def Ctx.win (c : Ctx) (t : Bytes) : Bytes := t.take (min c.bl t.length)
def Ctx.matches (c : Ctx) (w : Bytes) (i : Nat) : Bool :=
  match c.blocks[i]? with
  | none => false
  | some b => b.len == w.length && b.sum1 == c.W w && b.sum2.take c.csLen == (c.H w).take c.csLen
theorem Ctx.matches_lt {c : Ctx} {w : Bytes} {i : Nat} (h : c.matches w i = true) : i < c.blocks.length := by
  unfold Ctx.matches at h
  split at h
  · cases h
  · next hb => exact (List.getElem?_eq_some_iff.mp hb).1
/-- which of the matching blocks the search takes is left open -/
structure Pick (c : Ctx) where
  f : Bytes → Option Nat
  sound : ∀ w i, f w = some i → c.matches w i = true
  complete : ∀ w, f w = none → ∀ i, c.matches w i = false
theorem win_length_pos (c : Ctx) (x : UInt8) (xs : Bytes) : 0 < (c.win (x :: xs)).length := by
  simp [Ctx.win, Ctx.bl]
theorem win_eq_take (c : Ctx) (t : Bytes) : c.win t = t.take c.bl := List.take_eq_take_min.symm
theorem drop_win (c : Ctx) (t : Bytes) : t.drop (c.win t).length = t.drop c.bl := by
  rw [win_eq_take, List.length_take, ← List.drop_eq_drop_min]
def greedy (c : Ctx) (p : Pick c) : (t : Bytes) → List Tok
  | [] => []
  | x :: xs =>
    match p.f (c.win (x :: xs)) with
    | some i => Tok.ref i :: greedy c p ((x :: xs).drop (c.win (x :: xs)).length)
    | none => Tok.lit x :: greedy c p xs
termination_by t => t.length
decreasing_by
  · have := win_length_pos c x xs
    simp only [List.length_drop]; simp at *; omega
  · simp
end Spec
