import RsyncModel.Delta.AlgA
import RsyncModel.Delta.Roll
/-! Algorithm level B: the same token loop, but the weak sum is not recomputed at every offset:
it is carried as the pair `(s1, s2)` and updated exactly as match.go does (`rollStep` when a
further byte exists, `dropStep` when the window only shrinks; after a match the sum is recomputed
one byte early and rolled once). -/
namespace Spec

/-- one pass of the rolling update of `hashSearch` (match.go) for the position whose remaining bytes
are `x :: xs` -/
def rollGo (c : Ctx) (s : UInt32 × UInt32) (x : UInt8) (xs : Bytes) : UInt32 × UInt32 :=
  -- k = min bl |x :: xs|; `more` (a byte follows the window) iff bl ≤ |xs|, and then k = bl
  if h : c.bl ≤ xs.length then
    rollStep s.1 s.2 (UInt32.ofNat c.bl) x (xs[c.bl - 1]'(by
      have : 1 ≤ c.bl := by simp [Ctx.bl]
      omega))
  else
    dropStep s.1 s.2 (UInt32.ofNat (xs.length + 1)) x

/-- the lookup as the Go code performs it: from the carried pair and the window bytes -/
abbrev Look := UInt32 → UInt32 → Bytes → Option Nat

def algB (c : Ctx) (look : Look) (ch : Chunker) (fl : Flusher) (pend : Bytes) (s : UInt32 × UInt32) :
    (rest : Bytes) → List ATok
  | [] => emitRun ch pend
  | x :: xs =>
    let w := c.win (x :: xs)
    match look s.1 s.2 w with
    | some i =>
      let r := (x :: xs).drop w.length
      let y := w.getLast (by have := win_length_pos c x xs; exact List.ne_nil_of_length_pos this)
      let s0 := wsum (c.win (y :: r))        -- readChunk at offset+len-1 (Checksum1 of that chunk)
      let s' := rollGo c s0 y r              -- then the loop rolls once before looking again
      emitRun ch pend ++ ATok.ref i :: algB c look ch fl [] s' r
    | none =>
      let pend' := pend ++ [x]
      let n := fl pend' xs
      emitRun ch (pend'.take n) ++ algB c look ch fl (pend'.drop n) (rollGo c s x xs) xs
termination_by rest => rest.length
decreasing_by
  · have := win_length_pos c x xs
    simp only [List.length_drop]; simp at *; omega
  · simp

theorem ofNat_cong (k : Nat) (hk : k < 4294967296) : Cong (UInt32.ofNat k) (k : Int) := by
  unfold Cong; simp [Nat.mod_eq_of_lt hk]

theorem rollGo_wsum (c : Ctx) (hbl : c.bl < 4294967296) (x : UInt8) (xs : Bytes) :
    rollGo c (wsum (c.win (x :: xs))) x xs = wsum (c.win xs) := by
  unfold rollGo
  simp only [win_eq_take, Ctx.bl, List.take_succ_cons, Nat.add_sub_cancel] at hbl ⊢
  split
  · next hlen =>
    rw [List.take_succ_eq_append_getElem hlen]
    apply rollStep_wsum
    have : (xs.take c.blm1).length = c.blm1 := by rw [List.length_take]; omega
    rw [this]
    exact_mod_cast ofNat_cong _ hbl
  · next hlen =>
    rw [List.take_of_length_le (by omega), List.take_of_length_le (Nat.le_of_not_le hlen)]
    apply dropStep_wsum
    exact_mod_cast ofNat_cong (xs.length + 1) (by omega)
def pickOf (look : Look) : Bytes → Option Nat := fun w => look (wsum w).1 (wsum w).2 w

theorem algB_eq_algA (c : Ctx) (hbl : c.bl < 4294967296) (look : Look) (p : Pick c) (hp : p.f = pickOf look)
    (ch : Chunker) (fl : Flusher) (pend rest : Bytes) :
    algB c look ch fl pend (wsum (c.win rest)) rest = algA c p ch fl pend rest := by
  have hl : ∀ w, look (wsum w).1 (wsum w).2 w = p.f w := fun w => (congrFun hp w).symm
  induction pend, rest using algA.induct c p fl with
  | case1 pend => simp [algA, algB]
  | case2 pend x xs i hpick ih =>
    rw [algA, hpick, algB, hl, hpick]
    simp only
    rw [rollGo_wsum c hbl, ih]
  | case3 pend x xs hpick pend' n ih =>
    rw [algA, hpick, algB, hl, hpick]
    simp only
    rw [rollGo_wsum c hbl, ih]

theorem algB_correct (c : Ctx) (hbl : c.bl < 4294967296) (look : Look) (p : Pick c) (hp : p.f = pickOf look)
    (ch : Chunker) (fl : Flusher) (t : Bytes) :
    flat (algB c look ch fl [] (wsum (c.win t)) t) = greedy c p t := by
  rw [algB_eq_algA c hbl look p hp, algA_correct]

end Spec
