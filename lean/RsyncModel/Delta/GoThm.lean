import RsyncModel.Delta.Go
/-! Theorems about the Go-level sender instance: the lookup is a `Pick`, the emitted tokens are the
greedy specification's, and every token is a bounded literal piece or a reference into the table. -/
namespace Delta
open Spec

def pickGo (c : Ctx) (hW : c.W = fun w => pack (wsum w)) : Pick c where
  f := pickOf (lookGo c)
  sound := by
    intro w i h
    simp only [pickOf, lookGo] at h
    have := List.find?_some h
    simp only [Ctx.matches, hW]
    split at this
    · simp at this
    · next b hb => rw [hb]; simpa [Bool.and_assoc] using this
  complete := by
    intro w h i
    simp only [pickOf, lookGo] at h
    rw [List.find?_eq_none] at h
    simp only [Ctx.matches, hW]
    cases hb : c.blocks[i]? with
    | none => rfl
    | some b =>
      have hi : i < c.blocks.length := by
        rcases List.getElem?_eq_some_iff.mp hb with ⟨hi, _⟩; exact hi
      have := h i (List.mem_range.mpr hi)
      rw [hb] at this
      simpa [Bool.and_assoc] using this

theorem mkCtx_W (H : Bytes → Bytes) (h : Head) (sums : List Sum) :
    (mkCtx H h sums).W = fun w => pack (wsum w) := rfl

theorem mkCtx_bl (H : Bytes → Bytes) (h : Head) (sums : List Sum) (hb : 1 ≤ h.bl) : (mkCtx H h sums).bl = h.bl := by
  simp [mkCtx, Ctx.bl]; omega

theorem senderTokens_eq_algA (H : Bytes → Bytes) (h : Head) (sums : List Sum) (t : Bytes) (hbl : h.bl < 4294967296) :
    senderTokens H h sums t = algA (mkCtx H h sums) (pickGo (mkCtx H h sums) (mkCtx_W H h sums)) goChunker
      (goFlusher h.bl (lastLen h)) [] t :=
  algB_eq_algA _ (by simp [mkCtx, Ctx.bl]; omega) _ _ rfl _ _ [] t

/-- **Refinement**: the Go-shaped loop (rolling `uint32` pair, recompute-and-roll after a match,
`chunkSize` cutting, early flush) emits exactly the greedy specification's tokens. -/
theorem senderTokens_eq_greedy (H : Bytes → Bytes) (h : Head) (sums : List Sum) (t : Bytes)
    (hbl : h.bl < 4294967296) :
    flat (senderTokens H h sums t) =
      greedy (mkCtx H h sums) (pickGo (mkCtx H h sums) (mkCtx_W H h sums)) t := by
  rw [senderTokens_eq_algA H h sums t hbl, algA_correct]

theorem mem_cutChunks (n : Nat) (bs : Bytes) : ∀ p ∈ cutChunks n bs, 0 < p.length ∧ (0 < n → p.length ≤ n) := by
  induction bs using cutChunks.induct n with
  | case1 bs h he => rw [cutChunks]; simp_all
  | case2 bs h he =>
    rw [cutChunks, dif_pos h, if_neg he]
    intro p hp
    obtain rfl := List.mem_singleton.mp hp
    exact ⟨List.length_pos_iff.mpr (by simpa using he), by omega⟩
  | case3 bs h ih =>
    rw [cutChunks, dif_neg h]
    intro p hp
    rcases List.mem_cons.mp hp with rfl | hp
    · simp only [List.length_take]; omega
    · exact ih p hp

theorem mem_senderTokens (H : Bytes → Bytes) (h : Head) (sums : List Sum) (t : Bytes) (hbl : h.bl < 4294967296) :
    ∀ x ∈ senderTokens H h sums t,
      (∃ b, x = .lits b ∧ 0 < b.length ∧ b.length ≤ chunkSize) ∨ ∃ i, x = .ref i ∧ i < sums.length := by
  intro x hx
  rw [senderTokens_eq_algA H h sums t hbl] at hx
  rcases mem_algA _ _ _ _ x _ _ hx with ⟨bs, hb⟩ | ⟨w, i, rfl, hp⟩
  · obtain ⟨p, hp, rfl⟩ := List.mem_map.mp hb
    exact .inl ⟨p, rfl, (mem_cutChunks _ _ p hp).1, (mem_cutChunks _ _ p hp).2 (by decide)⟩
  · have := Ctx.matches_lt ((pickGo _ (mkCtx_W H h sums)).sound w i hp)
    exact .inr ⟨i, rfl, by simpa [mkCtx, mkBlocks] using this⟩

end Delta
