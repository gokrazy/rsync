import RsyncModel.PureTie
import RsyncModel.Delta.HonestHead
import RsyncModel.SendFile
/-! # The block signatures as the source computes, sends and reads them

`Gen.Pure.genSums` (receiver/generator.go `generateAndSendSums`: the loop that reads the basis file block by block and
writes each block's weak and strong sum) and `Gen.Pure.recvSums` (sender/sender.go `receiveSums`: the loop that reads
them back into the block list the search uses) are regenerated from /repo on every run. Proved for every file and
block length: the generator writes the sums of exactly the model's `splitBlocks` pieces, in order, and reads the file to
its end. Proved for every validated header and every input that begins with `count` entries of `checksumLength` bytes:
the sender's list has, per block, the index, the offset (sum of the lengths before it), the model's `blockLen`, the weak
sum and the strong-sum bytes (a short or malformed input is not covered). -/
namespace SumsTie
open Go Delta PureTie Spec

/-! Both loops are `for i := int32(0); i < count; i++`: after `k` passes `i = Int32.ofNat k`, and `k` stays within `count`. -/

theorem counter_lt {k : Nat} {c : Int32} (hk : (k : Int) ≤ c.toInt) : decide (Int32.ofNat k < c) = decide ((k : Int) < c.toInt) := by
  have := c.toInt_lt
  exact decide_eq_decide.mpr (by rw [Int32.lt_iff_toInt_lt, Int32.toInt_ofNat_of_lt (n := k) (by omega)])

theorem counter_variant {k : Nat} {c : Int32} (h : (k : Int) < c.toInt) :
    (c.toInt - (Int32.ofNat (k + 1)).toInt).toNat < (c.toInt - (Int32.ofNat k).toInt).toNat := by
  have := c.toInt_lt
  rw [Int32.toInt_ofNat_of_lt (n := k) (by omega), Int32.toInt_ofNat_of_lt (n := k + 1) (by omega)]
  omega

theorem ofNat_succ (k : Nat) : Int32.ofNat k + 1 = Int32.ofNat (k + 1) := (Int32.ofNat_add k 1).symm

/-- the record the sender keeps for block `k` whose wire form is the weak sum `p.1` and the strong-sum bytes `p.2` -/
def recOf (h : Head32) (cs : Nat) (k : Nat) (off : Int) (p : Int32 × Bytes) : Go.SumRec :=
  ⟨Int32.ofNat k, off, (blockLen (h.toHead cs) k : Int), p.1.toUInt32, p.2⟩

def wireSums (ss : List (Int32 × Bytes)) : Bytes := ss.flatMap fun p => Wire.encI32 p.1 ++ p.2

/-- the sender's block list for wire entries `ps`, the first of them being block `k` at offset `off` -/
def recs (h : Head32) (cs : Nat) : Nat → Int → List (Int32 × Bytes) → List Go.SumRec
  | _, _, [] => []
  | k, off, p :: ps => recOf h cs k off p :: recs h cs (k + 1) (off + (blockLen (h.toHead cs) k : Int)) ps

section
variable (h : Head32) (hok : h.ok) (cs : Nat) (csLen : Int32) (ps : List (Int32 × Bytes)) (rest : Bytes) (L0 : Int)
  (hps : ∀ p ∈ ps, (p.2.length : Int) = csLen.toInt) (hn : (ps.length : Int) = h.count.toInt)

/-- what `receiveSums`' loop keeps: `k` entries are read, the others are still on the wire; the records made
continue, from block `k` at offset `off`, to the whole list -/
def RecvInv : Bytes × Int × Int × List Go.SumRec × Int32 → Prop := fun (inp, _, off, acc, i) =>
  ∃ k ≤ ps.length, i = Int32.ofNat k ∧ inp = wireSums (ps.drop k) ++ rest ∧
    acc ++ recs h cs k off (ps.drop k) = recs h cs 0 0 ps

include hok hps hn

theorem recvSums_pass (s : Bytes × Int × Int × List Go.SumRec × Int32) (hi : RecvInv h cs ps rest s)
    (hc : Gen.Pure.recvSums_cond0 h.bl h.count csLen h.rem s = true) :
    ∃ s', Gen.Pure.recvSums_body0 h.bl h.count csLen h.rem s = .ok s' ∧ RecvInv h cs ps rest s' ∧
      (h.count.toInt - s'.2.2.2.2.toInt).toNat < (h.count.toInt - s.2.2.2.2.toInt).toNat := by
  obtain ⟨inp, L, off, acc, i⟩ := s
  obtain ⟨k, hk, rfl, rfl, hv⟩ := hi
  have hlt : (k : Int) < h.count.toInt := of_decide_eq_true ((counter_lt (by omega)).symm.trans hc)
  have hkl : k < ps.length := by omega
  have hki := Int32.toInt_ofNat_of_lt (n := k) (by have := h.count.toInt_lt; omega)
  have hlen := blockLen_toHead h hok cs (Int32.ofNat k) (by omega)
  rw [hki, Int.toNat_natCast] at hlen
  rw [List.drop_eq_getElem_cons hkl] at hv ⊢
  have hb : Gen.Pure.recvSums_body0 h.bl h.count csLen h.rem (wireSums (ps[k] :: ps.drop (k + 1)) ++ rest, L, off, acc, Int32.ofNat k) =
      .ok (wireSums (ps.drop (k + 1)) ++ rest, (blockLen (h.toHead cs) k : Int), off + (blockLen (h.toHead cs) k : Int),
        acc ++ [recOf h cs k off ps[k]], Int32.ofNat (k + 1)) := by
    simp only [Gen.Pure.recvSums_body0, wireSums, List.flatMap_cons, List.append_assoc, Go.readI32_encI32, Go.bind_ok, Go.bind_ite_ok,
      hlen, ← hps ps[k] (List.getElem_mem _), Go.readFull_append, ofNat_succ, recOf]
  refine ⟨_, hb, ⟨k + 1, hkl, rfl, rfl, ?_⟩, counter_variant hlt⟩
  rw [← hv, recs, List.append_assoc]; rfl

/-- **`receiveSums`' loop as the source has it**: for a validated header and `count` wire entries (weak sum, then
`checksumLength` strong-sum bytes each) it yields, per block, the index, the offset (the sum of the lengths before it),
the model's `blockLen`, the weak sum and the strong-sum bytes — and leaves what follows unread. -/
theorem recvSums_tied :
    Gen.Pure.recvSums h.count h.bl h.rem csLen (wireSums ps ++ rest) [] L0 = .ok (recs h cs 0 0 ps, rest) := by
  obtain ⟨⟨inp, L, off, acc, i⟩, hl, ⟨k, hk, rfl, rfl, hv⟩, hc⟩ := Go.loop_rule (RecvInv h cs ps rest)
    (fun s => (h.count.toInt - s.2.2.2.2.toInt).toNat) (recvSums_pass h hok cs csLen ps rest hps hn)
    h.count.toInt.toNat (wireSums ps ++ rest, L0, 0, [], 0) ⟨0, Nat.zero_le _, rfl, rfl, rfl⟩ (by simp)
  have := of_decide_eq_false ((counter_lt (by omega)).symm.trans hc)
  obtain rfl : k = ps.length := by omega
  rw [Gen.Pure.recvSums, hl, ← hv, List.drop_length]
  simp [recs, wireSums]

end

/-- what the generator writes for the pieces, in order: weak sum then strong sum of each -/
def sumFrames (H : Bytes → Bytes) (pieces : List Bytes) : List Go.Out :=
  pieces.flatMap fun w => [Go.Out.i32 (checksum1 w).toInt32, Go.Out.bytes (H w)]

theorem sumFrames_append (H : Bytes → Bytes) (a b : List Bytes) : sumFrames H (a ++ b) = sumFrames H a ++ sumFrames H b := by
  simp [sumFrames, List.flatMap_append]

theorem splitBlocks_cons (blm1 : Nat) (inp : Bytes) (h : inp ≠ []) :
    splitBlocks blm1 inp = inp.take (blm1 + 1) :: splitBlocks blm1 (inp.drop (blm1 + 1)) := by
  rw [splitBlocks, dif_neg h]

section
variable (H : Bytes → Bytes) (bl : Int32) (blm1 : Nat) (hbl : bl.toInt = (blm1 + 1 : Nat)) (count : Int32)

/-- what `generateAndSendSums`' loop keeps: `k` blocks are done, `remaining` is the length of what is unread, and the
blocks of the unread part are those to come, in number and in what is written for them (`all` is the complete output) -/
def GenInv (all : List Go.Out) : Bytes × List Go.Out × Int × Int32 → Prop := fun (inp, out, remaining, i) =>
  ∃ k : Nat, i = Int32.ofNat k ∧ remaining = (inp.length : Int) ∧
    ((k + (splitBlocks blm1 inp).length : Nat) : Int) = count.toInt ∧ out ++ sumFrames H (splitBlocks blm1 inp) = all

include hbl

theorem genSums_pass (fileLen : Int) (all : List Go.Out) (s : Bytes × List Go.Out × Int × Int32) (hi : GenInv H blm1 count all s)
    (hc : Gen.Pure.genSums_cond0 H bl (List.replicate (blm1 + 1) 0) count fileLen s = true) :
    ∃ s', Gen.Pure.genSums_body0 H bl (List.replicate (blm1 + 1) 0) count fileLen s = .ok s' ∧ GenInv H blm1 count all s' ∧
      (count.toInt - s'.2.2.2.toInt).toNat < (count.toInt - s.2.2.2.toInt).toNat := by
  obtain ⟨inp, out, r, i⟩ := s
  obtain ⟨k, rfl, rfl, hk, hv⟩ := hi
  have hlt : (k : Int) < count.toInt := of_decide_eq_true ((counter_lt (by omega)).symm.trans hc)
  have hne : inp ≠ [] := by
    have := lt_length_splitBlocks blm1 0 inp
    exact List.ne_nil_of_length_pos (by omega)
  rw [splitBlocks_cons blm1 inp hne] at hk hv
  -- a pass takes `n = min(bl, remaining)` bytes: `buf[:n]`, `io.ReadFull` into it (`n ≤ len(inp)`), the two sums
  have hn : min bl.toInt (inp.length : Int) = ((min (blm1 + 1) inp.length : Nat) : Int) := by rw [hbl, Lean.Omega.Int.ofNat_min]
  have hbuf : min (blm1 + 1) inp.length ≤ (List.replicate (blm1 + 1) (0 : UInt8)).length := by
    rw [List.length_replicate]; exact Nat.min_le_left ..
  have hb : Gen.Pure.genSums_body0 H bl (List.replicate (blm1 + 1) 0) count fileLen (inp, out, (inp.length : Int), Int32.ofNat k) =
      .ok (inp.drop (blm1 + 1), out ++ sumFrames H [inp.take (blm1 + 1)], ((inp.drop (blm1 + 1)).length : Int), Int32.ofNat (k + 1)) := by
    simp only [Gen.Pure.genSums_body0, hn]
    rw [Go.slice_to hbuf, Go.bind_ok, List.length_take_of_le hbuf, Go.readFull_natCast, if_neg (Nat.not_lt.mpr (Nat.min_le_right ..)),
      Go.bind_ok, checksum1_tied, Go.bind_ok, ← Int.natCast_sub (Nat.min_le_right ..), ← List.length_drop, ← List.take_eq_take_min,
      ← List.drop_eq_drop_min, ofNat_succ, List.append_assoc]
    rfl
  refine ⟨_, hb, ⟨k + 1, rfl, rfl, by simp at hk ⊢; omega, ?_⟩, counter_variant hlt⟩
  rw [← hv, List.append_assoc, ← sumFrames_append]; rfl

/-- **`generateAndSendSums`' loop as the source has it**: for a file of any content, a block length ≥ 1 and the block
count of the header (`⌈len/bl⌉`), it reads the file to its end and writes, block by block of the model's `splitBlocks`,
the weak sum (`Checksum1` as translated) and the strong sum. -/
theorem genSums_tied (file : Bytes) (hcount : count.toInt = ((splitBlocks blm1 file).length : Nat)) (out : List Go.Out) :
    Gen.Pure.genSums (file.length : Int) bl count file out H = .ok (out ++ sumFrames H (splitBlocks blm1 file), []) := by
  obtain ⟨⟨inp, o, r, i⟩, hl, ⟨k, rfl, -, hk, hv⟩, hc⟩ := Go.loop_rule (GenInv H blm1 count _)
    (fun s => (count.toInt - s.2.2.2.toInt).toNat) (genSums_pass H bl blm1 hbl count (file.length : Int) _)
    count.toInt.toNat (file, out, (file.length : Int), 0) ⟨0, rfl, rfl, by rw [hcount]; simp, rfl⟩ (by simp)
  have := of_decide_eq_false ((counter_lt (by omega)).symm.trans hc)
  obtain rfl : inp = [] := by
    have := lt_length_splitBlocks blm1 0 inp
    exact List.eq_nil_of_length_eq_zero (by omega)
  rw [Gen.Pure.genSums, hbl, Go.make_natCast]
  simp only [Go.bind_ok, hl, ← hv]
  rw [splitBlocks]; simp [sumFrames]

end

theorem wireOf_sumFrames (H : Bytes → Bytes) (pieces : List Bytes) :
    SendFile.wireOf (sumFrames H pieces) = wireSums (pieces.map fun w => ((checksum1 w).toInt32, H w)) := by
  rw [sumFrames, SendFile.wireOf_pairs, wireSums, List.flatMap_map]

end SumsTie
