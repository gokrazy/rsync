import RsyncModel.Generator
/-! `setUid` / `setPerms` field by field and `genStep` branch by branch: what C10, C11, C12 rest on. -/
namespace Rx

@[simp] theorem setUid_kind (o : Opts) (e : Entry) (n : Node) : (setUid o e n).kind = n.kind := rfl
@[simp] theorem setUid_size (o : Opts) (e : Entry) (n : Node) : (setUid o e n).size = n.size := rfl
@[simp] theorem setUid_sum (o : Opts) (e : Entry) (n : Node) : (setUid o e n).sum = n.sum := rfl
@[simp] theorem setUid_mtime (o : Opts) (e : Entry) (n : Node) : (setUid o e n).mtime = n.mtime := rfl
@[simp] theorem setUid_perm (o : Opts) (e : Entry) (n : Node) : (setUid o e n).perm = n.perm := rfl
@[simp] theorem setUid_target (o : Opts) (e : Entry) (n : Node) : (setUid o e n).target = n.target := rfl
@[simp] theorem setUid_rdev (o : Opts) (e : Entry) (n : Node) : (setUid o e n).rdev = n.rdev := rfl

/-- "assign unless already equal" is "assign" -/
theorem ite_and_bne {α : Type} [DecidableEq α] (c : Bool) (a b : α) :
    (if c && a != b then b else a) = if c then b else a := by
  cases c <;> by_cases h : a = b <;> simp [h]

theorem setUid_eq (o : Opts) (e : Entry) (n : Node) :
    setUid o e n = { n with uid := if o.uid && o.amRoot then e.uid else n.uid
                            gid := if o.gid && (o.amRoot || o.inGroup) then e.gid else n.gid } := by
  simp only [setUid, ite_and_bne]

theorem setPerms_eq (o : Opts) (e : Entry) (k : Kind) (p : Nat) (n : Node) :
    setPerms o e k p n = if o.dryRun then n else
      { n with
        mtime := if o.times && k != .lnk then e.mtime else n.mtime
        uid := if o.uid && o.amRoot then e.uid else n.uid
        gid := if o.gid && (o.amRoot || o.inGroup) then e.gid else n.gid
        perm := if k != .lnk then p else n.perm } := by
  have hm : (if o.times && k != .lnk && n.mtime != e.mtime then { n with mtime := e.mtime } else n) =
      { n with mtime := if o.times && k != .lnk then e.mtime else n.mtime } := by
    rw [← ite_and_bne (o.times && k != .lnk)]; split <;> rfl
  simp only [setPerms, hm, setUid_eq]
  cases k != .lnk <;> rfl

theorem setPerms_mtime_keep (o : Opts) (e : Entry) (k : Kind) (p : Nat) (n : Node)
    (ht : o.times = false) : (setPerms o e k p n).mtime = n.mtime := by
  rw [setPerms_eq]; split <;> simp [ht]

/-! ### `genStep`, one equation per branch -/

/-- what the `mknod`/`mkfifo`/`bind` of `createDevice` leaves behind -/
def devFresh (o : Opts) (e : Entry) : Node :=
  { newNode o e.kind (if e.kind == .sock then 0o777 else e.perm) with rdev := if isDevKind e.kind then e.rdev else 0 }

def lnkFresh (o : Opts) (e : Entry) : Node := { newNode o .lnk 0o777 with perm := 0o777, target := e.target }

abbrev wantsDev (o : Opts) (e : Entry) : Bool := (o.devices && isDevKind e.kind) || (o.specials && isSpecialKind e.kind)

/-- the directory `genStep` sets the metadata of: the one that is there, or a new one (after removing what is in the way) -/
def dirBase (o : Opts) (e : Entry) : Option Node → Node
  | some n => if n.kind != .dir then newNode o .dir e.perm else n
  | none => newNode o .dir e.perm

theorem dirBase_kind (o : Opts) (e : Entry) (d : Option Node) : (dirBase o e d).kind = .dir := by
  cases d with
  | none => rfl
  | some n => by_cases h : n.kind = .dir <;> simp [dirBase, h, newNode]

theorem genStep_dir {o : Opts} {e : Entry} (d : Option Node) (he : e.kind = .dir) :
    genStep o e d = if o.dryRun then ⟨d, .none, false, .ok⟩ else
      ⟨some (setPerms o e .dir (if e.perm &&& wbit == 0 then e.perm ||| wbit else e.perm) (dirBase o e d)),
        .none, e.perm &&& wbit == 0, .ok⟩ := by
  unfold genStep
  simp only [he]
  cases d with
  | none => rfl
  | some n => by_cases h : n.kind = .dir <;> simp [dirBase, h]

theorem genStep_lnk {o : Opts} {e : Entry} (d : Option Node) (he : e.kind = .lnk) (hl : o.links = true) :
    genStep o e d = if o.dryRun then ⟨d, .none, false, .ok⟩ else
      match d with
      | some n =>
        if n.kind == .lnk && n.target == e.target then ⟨some (setPerms o e .lnk e.perm n), .none, false, .ok⟩
        else if n.kind == .dir then ⟨d, .none, false, .err⟩
        else ⟨some (setPerms o e .lnk e.perm (lnkFresh o e)), .none, false, .ok⟩
      | none => ⟨some (setPerms o e .lnk e.perm (lnkFresh o e)), .none, false, .ok⟩ := by
  unfold genStep
  simp only [he, hl, Bool.true_and, beq_self_eq_true, if_true]
  rfl

theorem wantsDev_kind {o : Opts} {e : Entry} (h : wantsDev o e = true) :
    e.kind ≠ .dir ∧ e.kind ≠ .lnk := by
  refine ⟨?_, ?_⟩ <;> intro hk <;> simp [wantsDev, isDevKind, isSpecialKind, hk] at h

theorem deviceExists_of_kind {k : Kind} {n : Node} (hk : isDevKind k = true ∨ isSpecialKind k = true)
    (hn : n.kind = k) : deviceExists k n = true := by
  cases k <;> simp_all [deviceExists, isDevKind, isSpecialKind]

theorem genStep_dev {o : Opts} {e : Entry} (d : Option Node) (h : wantsDev o e = true) :
    genStep o e d = if o.dryRun then ⟨d, .none, false, .ok⟩ else
      match d with
      | some n =>
        if deviceExists e.kind n then
          if !isDevKind e.kind || n.rdev == e.rdev then ⟨some (setPerms o e e.kind e.perm n), .none, false, .ok⟩
          else ⟨some (setPerms o e e.kind e.perm (devFresh o e)), .none, false, .ok⟩
        else ⟨d, .none, false, .err⟩
      | none => ⟨some (setPerms o e e.kind e.perm (devFresh o e)), .none, false, .ok⟩ := by
  obtain ⟨h1, h2⟩ := wantsDev_kind h
  have hl : (o.links && e.kind == .lnk) = false := by simp [h2]
  have h' : ((o.devices && isDevKind e.kind) || (o.specials && isSpecialKind e.kind)) = true := h
  unfold genStep
  split
  · next hk => exact absurd hk h1
  · simp only [hl, h', Bool.false_eq_true, if_false, if_true]; rfl

theorem genStep_reg {o : Opts} {e : Entry} (d : Option Node) (he : e.kind = .reg) :
    genStep o e d = match d with
      | none => ⟨none, if o.dryRun then .indexOnly else .full, false, .ok⟩
      | some n =>
        if n.kind != .reg then
          if o.dryRun then ⟨d, .indexOnly, false, .ok⟩
          else if n.kind == .dir && n.nonEmpty then ⟨d, .none, false, .err⟩
          else ⟨none, .full, false, .ok⟩
        else if skipFile o e n then
          ⟨some (setPerms o e .reg (if o.perms then e.perm else n.perm) n), .none, false, .ok⟩
        else ⟨d, if o.dryRun then .indexOnly else .delta, false, .ok⟩ := by
  unfold genStep
  simp only [he, isDevKind, isSpecialKind]
  cases d with
  | none => simp
  | some n => cases o.dryRun <;> simp

theorem genStep_reg_ok {o : Opts} {e : Entry} {n : Node} (he : e.kind = .reg) (hk : n.kind = .reg) :
    (genStep o e (some n)).res = .ok := by
  rw [genStep_reg _ he]
  simp only [hk, bne_self_eq_false, Bool.false_eq_true, if_false]
  split <;> rfl

theorem genStep_other {o : Opts} {e : Entry} (d : Option Node) (h1 : e.kind ≠ .dir) (h2 : (o.links && e.kind == .lnk) = false)
    (h3 : wantsDev o e = false) (h4 : e.kind ≠ .reg) : genStep o e d = ⟨d, .none, false, .ok⟩ := by
  have h4' : (e.kind != .reg) = true := by simpa using h4
  have h3' : ((o.devices && isDevKind e.kind) || (o.specials && isSpecialKind e.kind)) = false := h3
  unfold genStep
  split
  · next hk => exact absurd hk h1
  · simp only [h2, h3', h4', Bool.false_eq_true, if_false, if_true]
end Rx
