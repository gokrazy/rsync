import RsyncModel.Gen.FsSites
/-! What the regenerated table of file-system call sites must satisfy (C04, C05, C06, C07, C10).
Everything here is decided over the *whole* table (`decide +kernel`, or unfolding of string literals), so it is a
proof about the current source, not a sample. -/
namespace FsSitesSpec
open Gen.FsSites

def guardOk (g : Guard) : Bool := g == .afterDryReturn || g == .elseOfDry

/-! ### C10: mutating receiver sites are unreachable in a dry run -/

/-- one round: `f` is protected if it cannot be called from outside the package and every call site
of it is dominated by a dry-run return (or sits in a protected caller) -/
def protStep (prot : Fn_receiver → Bool) (f : Fn_receiver) : Bool :=
  !exported_receiver.contains f &&
  calls_receiver.any (fun c => c.callee == f) &&
  calls_receiver.all (fun c => c.callee != f || guardOk c.guard || prot c.caller)

def protN : Nat → Fn_receiver → Bool
  | 0 => fun _ => false
  | n + 1 => protStep (protN n)

/-- Any number of rounds is sound: `protN 0` protects nothing and `protStep` is monotone in `prot`, so a function that
some round protects is called only below a dry-run return, directly or through protected callers. Six rounds are more
than the present table needs: its protected set stops growing after two (`newPendingFile` enters in the second, its one
caller `receiveData` in the first). -/
def dryProtected : Fn_receiver → Bool := protN 6

/-- every mutating site of the receiver is dominated by `if rt.Opts.DryRun { return }`, or lies in a
function that is only reachable through such a guard -/
def drySafe : Bool :=
  sites_receiver.all fun s => !s.mutating || guardOk s.guard || dryProtected s.fn

/-- sites inside a dry-run branch do not mutate -/
def dryBranchPure : Bool := sites_receiver.all fun s => s.guard != .inDryBranch || !s.mutating

theorem dry_sites_guarded : drySafe = true ∧ dryBranchPure = true := by decide +kernel

/-! ### C05: the receiver names its targets only through the root (or fd-relative / open handles) -/

def confinedCls (c : Cls) : Bool :=
  c == .viaRoot || c == .fdRelative || c == .rootHelper || c == .handle || c == .walkRoot || c == .procFdBind

def receiverConfined : Bool := sites_receiver.all fun s => confinedCls s.cls

theorem receiver_sites_confined : receiverConfined = true := by decide +kernel

/-! ### C06: the sender reads only through the FileSource and never mutates -/

def senderCls (s : Site_sender) : Bool :=
  s.cls == .viaSource || s.cls == .handle || s.cls == .walkSource || s.cls == .viaRoot ||
  -- opening the module root itself (`os.OpenRoot(s.localDir)` in `walk`)
  (s.fn == .walk && s.cls == .rawPath && s.calleeId == callee_os_OpenRoot)

def senderConfined : Bool := sites_sender.all fun s => senderCls s && !s.mutating

theorem sender_sites_confined : senderConfined = true := by decide +kernel

/-! ### C07: the daemon touches a module's directory only after the writability check -/

def daemonGuarded : Bool := sites_rsyncd.all fun s => s.writableChecked ||
  -- `subdirInModule` checks that an upload's subdirectory lies below the module (D43: two `Stat`s); `reopenByPath` opens
  -- that directory once more by its resolved path (D52: an `os.OpenRoot` and a `Stat`); nothing is changed
  ((s.fn == .subdirInModule || s.fn == .reopenByPath) && !s.mutating)

/-- raw paths in the daemon: the configured module path (created / opened as the root), and the resolved subdirectory
in the two read-only checks -/
def daemonRawOnlyModuleRoot : Bool :=
  sites_rsyncd.all fun s => s.cls != .rawPath ||
    ((s.fn == .handleConnReceiver || s.fn == .restrictToModules) &&
      (s.calleeId == callee_os_MkdirAll || s.calleeId == callee_os_OpenRoot)) ||
    -- `os.Stat(subReal)` in `subdirInModule`: the resolved path of the requested subdirectory is compared with the
    -- directory that was opened through the root (D43); read-only
    (s.fn == .subdirInModule && s.calleeId == callee_os_Stat && !s.mutating) ||
    -- `os.OpenRoot(subReal)` in `reopenByPath`: the directory that was opened through the module's root and verified to lie
    -- below the module is opened once more by its resolved absolute path (so that the root's name is absolute) and
    -- compared with the first one (D52); nothing is changed
    (s.fn == .reopenByPath && s.calleeId == callee_os_OpenRoot && !s.mutating)

theorem daemon_sites_guarded : daemonGuarded = true ∧ daemonRawOnlyModuleRoot = true := by decide +kernel

/-- raw-path sites name exactly the configured paths: the module path (daemon: `mod.Path`, `rt.Dest`) and, in the two
read-only checks, the resolved subdirectory (`subReal`, once for `os.Stat` and once for `os.OpenRoot`); the walker's
local directory (sender); nothing at all in the receiver. And in `handleConnReceiver` the destination path is
the module path from the `Transfer` literal until the root has been opened -/
def rawArgsPinned : Bool :=
  rawArgs_receiver == [] &&
  rawArgs_sender == [("os.OpenRoot", "s.localDir")] &&
  rawArgs_rsyncd == [("os.MkdirAll", "mod.Path"), ("os.Stat", "subReal"), ("os.OpenRoot", "subReal"), ("os.MkdirAll", "rt.Dest"), ("os.OpenRoot", "rt.Dest")] &&
  destEvents_rsyncd.take 3 == ["Dest: module.Path", "os.MkdirAll(rt.Dest)", "os.OpenRoot(rt.Dest)"] &&
  (destEvents_rsyncd.drop 3).all (fun e => e.startsWith "rt.Dest = ")

theorem raw_args_pinned : rawArgsPinned = true := by decide +kernel

/-- the names handed to root-relative calls are the decoded entry name (cleaned when decoded), its
parent (`parent := filepath.Dir(f.Name)` in `createDevice` since the repair of D35), the path a root-relative walk
reports, or the daemon's cleaned subdirectory argument; in the sender, the path its walk reports (`path`), the same as
a list entry records it (`fl.path`), and the argument of the root-backed `FileSource`'s own methods (`name`). A name
with a trailing slash must never reach an `*os.Root` method: the kernel then follows a symbolic link
in the last position and the root's own check does not see it (D28; validated by the rootfs suite) -/
def rootNamesClean : Bool :=
  rootNameArgs_receiver.all (fun a => ["f.Name", "filepath.Dir(f.Name)", "parent", "path", "rt.DestRoot", "fn", "root"].contains a) &&
  rootNameArgs_rsyncd.all (fun a => ["subdir", "\".\""].contains a) &&
  rootNameArgs_sender.all (fun a => ["name", "path", "fl.path"].contains a) &&
  receiverNameCleaned && daemonSubdirCleaned && senderWalkRootCleaned

theorem root_names_clean : rootNamesClean = true := by decide +kernel

/-- data in progress goes to a renameio pending file below the root, symbolic links are replaced by
renameio's temp-symlink-and-rename: the two helpers are exactly these calls -/
def pendingHelpersOk : Bool :=
  newPendingFileBody == "{ return renameio.NewPendingFile(fn, renameio.WithRoot(root)) }" &&
  symlinkBody == "{ return renameio.SymlinkRoot(root, oldname, newname) }"

theorem pending_helpers_ok : pendingHelpersOk = true := by
  simp only [pendingHelpersOk, newPendingFileBody, symlinkBody, beq_self_eq_true, Bool.and_self]

end FsSitesSpec
