import RsyncModel.PureTie
import RsyncModel.RoundTripHonest
import RsyncModel.RecvOrderSpec
/-! # C03 — only data that passes the whole-file checksum ever replaces a destination file

`recvData` is the receiver's `receiveData` as a function of the *raw byte stream* — any bytes, not
only well-formed streams — so "every single-bit flip, substituted reference, reordered / duplicated /
truncated literal run, changed basis" are all inside the universal quantifier over `stream` and
`basis`. -/
namespace C03
open Recv Delta
abbrev Bytes := List UInt8

/-- **A commit implies the checksum comparison succeeded**: whatever the stream and the basis, if
the file is committed with content `c` then the 16 bytes that follow the token stream equal
`Hfile c` (the whole-file hash of what was reconstructed). -/
theorem commit_implies_hash (Hfile : Bytes → Bytes) (basis : Option Bytes) (stream c rest : Bytes)
    (h : recvData Hfile basis stream = (.committed c, rest)) :
    ∃ hd r r', readHead stream = .ok (hd, r) ∧ recvTokens hd basis r [] = .ok (c, r') ∧
      16 ≤ r'.length ∧ Hfile c = r'.take 16 ∧ rest = r'.drop 16 := by
  unfold recvData at h
  split at h
  · simp at h
  · next hd r hh =>
    split at h
    · simp at h
    · next content r' ht =>
      split at h
      · simp at h
      · next hlen =>
        split at h
        · next heq =>
          simp only [Prod.mk.injEq, Outcome.committed.injEq] at h
          obtain ⟨h1, h2⟩ := h
          subst h1
          exact ⟨hd, r, r', hh, ht, by omega, by simpa using heq, h2.symm⟩
        · simp at h

/-- **A damaged stream is never reported as a successful transfer of different content**: if the
trailer the receiver compares against is the sender's `Hfile t`, anything that is committed has the
same whole-file hash as `t`; when `Hfile` does not collide on the two contents (second-preimage
resistance, the one cryptographic hypothesis), the committed content *is* `t`. -/
theorem damaged_stream_detected (Hfile : Bytes → Bytes) (basis : Option Bytes) (stream c rest t : Bytes)
    (h : recvData Hfile basis stream = (.committed c, rest))
    (htrailer : ∀ hd r r', readHead stream = .ok (hd, r) → recvTokens hd basis r [] = .ok (c, r') →
      r'.take 16 = Hfile t)
    (hinj : Hfile c = Hfile t → c = t) : c = t := by
  obtain ⟨hd, r, r', h1, h2, _, h4, _⟩ := commit_implies_hash Hfile basis stream c rest h
  exact hinj (by rw [h4, htrailer hd r r' h1 h2])

/-- every outcome is either a commit (then `commit_implies_hash` applies) or an error return, and an
error return carries no content: there is no third way for data to reach the destination -/
theorem outcome_cases (Hfile : Bytes → Bytes) (basis : Option Bytes) (stream : Bytes) :
    (∃ c rest, recvData Hfile basis stream = (.committed c, rest)) ∨
    (∃ e rest, recvData Hfile basis stream = (.failed e, rest)) := by
  cases h : recvData Hfile basis stream with
  | mk o rest => cases o with
    | committed c => exact Or.inl ⟨c, rest, rfl⟩
    | failed e => exact Or.inr ⟨e, rest, rfl⟩

/-- a wrong trailer is refused, whatever else the stream contains -/
theorem wrong_trailer_refused (Hfile : Bytes → Bytes) (basis : Option Bytes) (stream : Bytes)
    (hd : Head) (r c r' : Bytes)
    (h1 : readHead stream = .ok (hd, r)) (h2 : recvTokens hd basis r [] = .ok (c, r'))
    (hlen : 16 ≤ r'.length) (hbad : Hfile c ≠ r'.take 16) :
    (recvData Hfile basis stream).1 = .failed .hash := by
  rw [recvData_of_parts Hfile basis stream hd r c r' h1 h2, if_neg (by omega), if_neg (by simpa using hbad)]

/-- **Regenerated fact**: in the current source of `receiveData` the single `CloseAtomicallyReplace`
comes after `if !bytes.Equal(localSum, remoteSum) { return err }`, where `localSum` is the `Sum` of
the hash that sits in a `MultiWriter` with the pending file (every written byte is hashed) and
`remoteSum` is read from the connection; nothing else writes to the pending file or the destination.
This is the code shape `Recv.recvData` models; deleting the comparison, comparing a buffer with
itself, or committing before the comparison changes the regenerated list and breaks this theorem. -/
theorem commit_guarded_in_source : RecvOrderSpec.wellOrdered Gen.RecvOrder.events = true := by decide

/-- non-vacuity: the honest stream *is* committed (C02 round trip), so the theorems above are not
about an empty set of commits -/
theorem honest_stream_commits (Hs Hfile : Bytes → Bytes) (blm1 cs : Nat) (basis t rest : Bytes)
    (hcs : cs ≤ maxCsLen) (hbl : blm1 + 1 ≤ maxBlockLen)
    (hcount : (honestHead blm1 cs basis).count < 2147483648)
    (hfile16 : (Hfile t).length = 16)
    (nocoll : ∀ (i : Nat) (p w : Bytes), (splitBlocks blm1 basis)[i]? = some p → p.length = w.length →
      (Hs p).take cs = (Hs w).take cs → p = w) :
    recvData Hfile (some basis)
        (encHead (honestHead blm1 cs basis) ++
          (encToks (senderTokens Hs (honestHead blm1 cs basis) (honestSums Hs blm1 basis) t) ++ (Hfile t ++ rest)))
      = (.committed t, rest) :=
  roundtrip_honest Hs Hfile blm1 cs basis t rest hcs hbl hcount hfile16 nocoll


/-- **the sender hashes exactly the bytes it describes, in file order**: one call of `matched`
(match.go, translated from /repo on every run) feeds the whole-file hash with the span that starts at
the old `lastMatch` and sets `lastMatch` to that span's end — so consecutive calls cover consecutive,
non-overlapping spans; a block reference extends the span by the block's length, the flush
pseudo-tokens by nothing. -/
theorem source_hash_spans_contiguous (offset lastMatch sumLen : Int) (i : Int32) :
    ∃ n lm', Gen.Pure.matchedSpan offset i lastMatch sumLen = .ok (n, lm') ∧ lm' = lastMatch + n ∧
      n = offset - lastMatch + (if i.toInt < 0 then 0 else sumLen) := by
  refine ⟨_, _, PureTie.matchedSpan_tied offset lastMatch sumLen i, ?_, rfl⟩
  omega

end C03
