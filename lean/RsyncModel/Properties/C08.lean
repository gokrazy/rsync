import RsyncModel.PeerInput
import RsyncModel.FlistTie
import RsyncModel.RecvTie
import RsyncModel.MapFile
import RsyncModel.PureTie
import RsyncModel.Properties.C17
import RsyncModel.Properties.C13
import RsyncModel.Properties.C07
import RsyncModel.Gen.ExitSites
import RsyncModel.Flist
import RsyncModel.RecvData
/-! # C08 — malformed or hostile peer input ends only that session, with an error

Lean functions are total, so "does not crash" has to be *said*: the models carry the explicit
`panic`/`exit`/`error` outcomes of the Go code, and the theorems state which inputs reach which.
(1) Structural facts regenerated from the source: no `os.Exit`/`log.Fatal` outside `cmd/`; the only
explicit `panic` sites are the two proved unreachable below; the per-connection goroutine recovers;
peer-supplied file indices are bounds-checked before every use. (2) The two panic sites are
unreachable for every input. (3) Argument lines can never make the daemon exit: an exit request of
the option parser (`--help`, `--version`, `--info=help`, `-h` in daemon mode) is an error frame. (4)
Lengths and counts a peer declares are rejected when negative or beyond the limits, on every decoder
a peer reaches (file-list names and link targets, filter rules, checksum headers, file indices). -/
namespace C08
open Gen.ExitSites

/-- nothing can exit the process; explicit panics exist only where theorems (2) apply; a panic in a
connection's goroutine is recovered; indices are checked before use -/
def structureOk : Bool :=
  exitSites == [] && panicSites == ["internal/rsyncwire.Read", "internal/sender.matches"] &&
  recoverSites.contains "rsyncd.Serve" && serveRecoversPerConnection &&
  recvFilesIndex == "checked-before-every-use" && sendFilesIndex == "checked-before-every-use"

theorem structure_ok : structureOk = true := by decide +kernel

/-- the multiplex reader's `panic("not enough buffer space")` is unreachable for every byte stream (C17) -/
theorem wire_panic_unreachable (stream buffered : Wire.Bytes) (k : Nat) (acc : Wire.Bytes) :
    (Mux.readFull Gen.Consts.clientBufSize k acc ⟨buffered, (Mux.parse stream).1, (Mux.parse stream).2⟩).1 ≠ Mux.Res.panic :=
  C17.client_never_panics stream buffered k acc

/-- the matcher's `panic("wildcard filter rules not yet implemented")` needs a wildcard rule in the
list, and a list with such a rule is refused when it is received (C13) -/
theorem filter_panic_unreachable (lines : List Filter.Str) (h : ∃ l ∈ lines, (Filter.parseRule l).wild = true) :
    Filter.parseRules lines = none :=
  C13.unsupported_is_error lines (by obtain ⟨l, hl, hw⟩ := h; exact ⟨l, hl, Or.inl hw⟩)

/-- **argument lines never exit the daemon**: whatever the client sends as arguments, the handler's
outcome is one of the session outcomes; an exit request of the parser is answered with an error frame -/
theorem args_never_exit (m : Daemon.Module) (argLines : List Opts.Str) (h : Opts.parse (Daemon.flagsOf argLines) = .exit) :
    (match Daemon.afterOk m argLines with | .argError => True | _ => False) := by
  simp [Daemon.afterOk, h]

/-- the option parser's outcome on any argument list is ok, an error or an exit *request* (a value, not an exit) -/
theorem parse_total (args : List Opts.Str) :
    (match Opts.parse args with | .ok _ => True | .err => True | .exit => True | .unmodelled => True) := by
  cases Opts.parse args <;> trivial

/-- a negative or oversized name length in a file-list entry is an error of the decoder (D4) -/
theorem name_length_checked (last : Flist.Entry) (v : Int32) (rest : Flist.Str)
    (h : v < 0 ∨ v.toInt ≥ (Flist.pathMax : Int)) :
    Flist.decName Flist.fLongName last (Wire.encI32 v ++ rest) = .error .overflow := by
  have hf : Flist.has Flist.fLongName Flist.fSameName = false := by decide
  have hl : Flist.has Flist.fLongName Flist.fLongName = true := by decide
  -- no inherited prefix, the length is the int32 `v`, and the bounds check of the name's bytes refuses it
  rw [Flist.decName_eq, hf, hl, Flist.l1Part, if_neg Bool.false_ne_true, pure_bind, Flist.l2Part, if_pos rfl, Flist.rdI32_enc,
    Flist.ret_bind, pure_bind, Flist.nameTail, if_pos]
  · rfl
  · show v.toInt < 0 ∨ v.toInt ≥ (Flist.pathMax : Int) - (0 : Nat)
    rw [Int32.lt_iff_toInt_lt, Int32.toInt_zero] at h
    omega

/-- a checksum header with a negative field, or with blocks of length zero, is refused (D2); `Recv.readHead`
refuses an oversized block or checksum length and a remainder larger than the block by its next checks, which
`source_sumhead_validation` shows to be the source's -/
theorem sumhead_checked (count bl cs rem : Int32) (rest : Wire.Bytes)
    (h : count < 0 ∨ bl < 0 ∨ cs < 0 ∨ rem < 0 ∨ (count > 0 ∧ bl = 0)) :
    Recv.readHead (Wire.encI32 count ++ (Wire.encI32 bl ++ (Wire.encI32 cs ++ (Wire.encI32 rem ++ rest)))) = .error .badHead := by
  unfold Recv.readHead
  simp only [Wire.decI32_encI32]
  by_cases h1 : count < 0
  · simp [h1]
  · simp only [h1, if_false]
    by_cases h2 : bl < 0 ∨ bl.toInt > Recv.maxBlockLen
    · simp [h2]
    · simp only [h2, if_false]
      by_cases h3 : cs < 0 ∨ cs.toInt > Recv.maxCsLen
      · simp [h3]
      · simp only [h3, if_false]
        by_cases h4 : rem < 0 ∨ rem > bl
        · simp [h4]
        · simp only [h4, if_false]
          have hz : count > 0 ∧ (bl == 0) = true := by
            rcases h with h | h | h | h | h
            · exact absurd h h1
            · exact absurd (Or.inl h) h2
            · exact absurd (Or.inl h) h3
            · exact absurd (Or.inl h) h4
            · exact ⟨h.1, by simp [h.2]⟩
          simp [hz]

/-- the file-index step of `RecvFiles`/`SendFiles`: −1 is the phase marker, anything outside
`0 ≤ idx < n` is an error (D3), never an index into the list -/
def indexStep (n : Nat) (idx : Int32) : Except Unit (Option Nat) :=
  if idx == -1 then .ok none
  else if idx < 0 ∨ idx.toInt ≥ (n : Int) then .error ()
  else .ok (some idx.toInt.toNat)

theorem index_in_range (n : Nat) (idx : Int32) (k : Nat) (h : indexStep n idx = .ok (some k)) : k < n := by
  unfold indexStep at h
  split at h
  · cases h
  · split at h
    · cases h
    next hr =>
      cases h
      rw [Int32.lt_iff_toInt_lt, Int32.toInt_zero] at hr
      omega

/-- a request for a module that is not writable never reaches receive mode (C07) — re-exported for the daemon's half -/
theorem readonly_is_error (mods : List Daemon.Module) (g ml : Opts.Str) (args : List Opts.Str) (m : Daemon.Module)
    (hm : Daemon.moduleOf (Daemon.handle mods g ml args) = some m) (hw : m.writable = false) :
    Daemon.isReceive (Daemon.handle mods g ml args) = false :=
  (C07.readonly_untouched mods g ml args m hm hw).2


/-! ### Tie to the source (regenerated translation `Gen.Pure`) -/

/-- **`SumHead.ReadFrom` as the source has it** (translated from /repo on every run, the four reads
as parameters): for every four 32-bit values a peer can send it either rejects — and so does the
model, with `badHead` — or accepts exactly the fields the model accepts; it never panics. -/
theorem source_sumhead_validation (sh0 : Gen.Pure.SumHead) (r0 r1 r2 r3 : Int32) (rest : Wire.Bytes) :
    match Gen.Pure.SumHeadReadFrom sh0 r0 r1 r2 r3 with
    | .ok sh => sh = ⟨r0, r1, r2, r3⟩ ∧
        Recv.readHead (Wire.encI32 r0 ++ (Wire.encI32 r1 ++ (Wire.encI32 r2 ++ (Wire.encI32 r3 ++ rest))))
          = .ok (⟨r0.toInt.toNat, r1.toInt.toNat, r2.toInt.toNat, r3.toInt.toNat⟩, rest)
    | .err => Recv.readHead (Wire.encI32 r0 ++ (Wire.encI32 r1 ++ (Wire.encI32 r2 ++ (Wire.encI32 r3 ++ rest))))
          = .error .badHead
    | .panic => False := by
  have e1 : r1.toInt > (Recv.maxBlockLen : Int) ↔ r1 > 536870912 := by
    rw [gt_iff_lt, gt_iff_lt, Int32.lt_iff_toInt_lt]; rfl
  have e2 : r2.toInt > (Recv.maxCsLen : Int) ↔ r2 > 16 := by
    rw [gt_iff_lt, gt_iff_lt, Int32.lt_iff_toInt_lt]; rfl
  simp only [Gen.Pure.SumHeadReadFrom, Recv.readHead, Wire.decI32_encI32, e1, e2, Bool.or_eq_true, Bool.and_eq_true,
    decide_eq_true_eq, beq_iff_eq]
  by_cases c0 : r0 < 0; · simp only [if_pos c0]
  by_cases c1 : r1 < 0 ∨ r1 > 536870912; · simp only [if_neg c0, if_pos c1]
  by_cases c2 : r2 < 0 ∨ r2 > 16; · simp only [if_neg c0, if_neg c1, if_pos c2]
  by_cases c3 : r3 < 0 ∨ r3 > r1; · simp only [if_neg c0, if_neg c1, if_neg c2, if_pos c3]
  by_cases c4 : r0 > 0 ∧ r1 = 0
  · simp only [if_neg c0, if_neg c1, if_neg c2, if_neg c3, if_pos c4]
  · simp only [if_neg c0, if_neg c1, if_neg c2, if_neg c3, if_neg c4, and_self]

/-- the sender's file window never panics and never fails on requests inside the file, whatever
sequence of block lengths and offsets a peer's checksum header makes it ask for -/
theorem source_window_no_panic (ms : Gen.Pure.mapStruct) (file : Wire.Bytes) (offset : Int) (l : Int32)
    (inv : MapFile.Inv ms file) (hl : 0 < l.toInt) (h0 : 0 ≤ offset) (hin : offset + l.toInt ≤ (file.length : Int)) :
    ∃ ms', Gen.Pure.ptr ms offset l file = .ok ((file.drop offset.toNat).take l.toInt.toNat, ms') ∧ MapFile.Inv ms' file :=
  MapFile.ptr_correct ms file offset l inv hl h0 hin


/-- **no token stream makes the receiver's loop panic**: the loop of `receiveData` and `recvToken`,
translated from /repo on every run, return a value or an error for every input byte stream, every
validated header and every basis — never `panic` (no negative `make`, no slice out of range, no
runaway loop) -/
theorem source_receiver_loop_no_panic (h : PureTie.Head32) (hok : h.ok) (cs : Nat) (basis : Wire.Bytes) (hasBasis : Bool)
    (inp acc : Wire.Bytes) :
    Gen.Pure.recvLoop inp basis hasBasis h.count h.bl h.rem acc ≠ .panic := by
  rw [RecvTie.recvLoop_tied h hok cs basis hasBasis inp acc]
  cases Recv.recvTokens (h.toHead cs) (if hasBasis then some basis else none) inp acc with
  | error e => simp
  | ok v => simp


/-- **the readers of peer-supplied lists as the source has them never panic and always end**
(`recvIdMapping1`: the uid/gid name lists a sender transmits; `RecvFilterList`: the filter rules a
client transmits — both translated from /repo on every run with the connection's input as a byte
list): for every input a value or an error; a negative or oversized rule length is rejected before
anything is allocated; the loops are over within `len(input)+1` passes -/
theorem source_list_readers_total (inp : Wire.Bytes) (out : List Go.Out) :
    Gen.Pure.recvIdLoop inp out ≠ .panic ∧ Gen.Pure.recvFilterLoop inp out ≠ .panic :=
  ⟨PeerInput.listLoop_no_panic PeerInput.recvId_safe inp out, PeerInput.listLoop_no_panic PeerInput.recvFilter_safe inp out⟩

/-- **`MultiplexReader.ReadMsg` as the source has it** returns a frame or an error for every input,
never panics; a declared length above `maxMessageSize` is an error before anything is allocated -/
theorem source_read_msg_total (inp : Wire.Bytes) : Gen.Pure.ReadMsg inp ≠ .panic := by
  rw [PeerInput.readMsg_tied]
  repeat' split
  all_goals nofun

/-- **No file-list input makes the source's entry decoder panic** (`receiveFileEntry`, translated): a negative
or oversized name or link length is an error before `make`, the inherited-prefix `copy`/`b[l1:]` stay in range, a
short input is an error — for every flag byte, previous entry, option set and byte string -/
theorem source_entry_decoder_no_panic (o : Flist.Opts) (flags : UInt8) (last : Flist.Entry) (inp : Wire.Bytes) :
    Gen.Pure.receiveFileEntry flags.toUInt16 inp last.name last.mtime last.mode last.uid last.gid last.rdev
        o.uid o.gid o.links o.devices o.specials o.checksum [] 0 0 0 0 0 0 [] [] ≠ .panic := by
  rw [FlistTie.receiveFileEntry_tied]
  exact FlistTie.toRes_ne_panic _

/-- and the list loop around it (`ReceiveFileList`) ends — with the list or an error — within `len(input)+1`
iterations on every input -/
theorem source_list_loop_no_panic (o : Flist.Opts) (inp : Wire.Bytes) :
    Gen.Pure.recvListLoop inp [] [] 0 0 0 0 0 o.uid o.gid o.links o.devices o.specials o.checksum ≠ .panic := by
  rw [FlistTie.recvListLoop_tied]
  exact FlistTie.toRes_ne_panic _

end C08
