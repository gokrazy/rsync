import RsyncModel.SshSpec
import RsyncModel.OptsDaemon
/-! # C20 — SSH listeners admit only authorised keys and expose only the rsync daemon -/
namespace C20
open Opts Ssh Gen.OptTable

/-! ## authorised keys -/

/-- the keys an authorized_keys file lists: the key of every line that is neither blank nor a comment -/
def listed (file : List KeyLine) (k : Str) : Prop := ∃ l ∈ file, skipped l = false ∧ l.blob = some k

theorem loadKeys_eq (file : List KeyLine) (ks : List Str) (h : loadKeys file = some ks) :
    ks = (file.filter (!skipped ·)).filterMap (·.blob) := by
  induction file generalizing ks with
  | nil => cases h; rfl
  | cons l rest ih =>
    rw [loadKeys] at h
    split at h
    next hs => simpa [hs] using ih ks h
    next hs =>
      split at h
      next k ks' hb hr => cases h; simp [hs, hb, ← ih ks' hr]
      · cases h

/-- **a session is granted exactly to the listed keys**: for every file (blank lines, comments,
any number of keys) and every presented key -/
theorem authorised_iff_listed (file : List KeyLine) (ks : List Str) (k : Str) (h : loadKeys file = some ks) :
    admits (some ks) k = true ↔ listed file k := by
  simp [admits, listed, loadKeys_eq file ks h, List.mem_filterMap, and_assoc]

/-- an authorised listener whose file lists no key (empty, or only comments and blank lines) admits nobody — it is not an anonymous listener -/
theorem no_keys_admits_nobody (addr : Str) (file : List KeyLine) (k : Str) (ha : addr ≠ [])
    (hall : ∀ l ∈ file, skipped l = true) :
    ∃ ks, listenerKeys addr file = some (some ks) ∧ admits (some ks) k = false := by
  have hl : loadKeys file = some [] := by
    induction file with
    | nil => rfl
    | cons l rest ih =>
      simp only [loadKeys, hall l (by simp), if_true]
      exact ih (fun x hx => hall x (by simp [hx]))
  refine ⟨[], ?_, by simp [admits]⟩
  have : addr.isEmpty = false := by cases addr <;> simp_all
  simp [listenerKeys, this, hl]

/-- only a listener without an authorised-SSH address is anonymous -/
theorem anonymous_iff_no_address (addr : Str) (file : List KeyLine) :
    listenerKeys addr file = some none ↔ addr = [] := by
  unfold listenerKeys
  cases addr with
  | nil => simp
  | cons c cs =>
    simp only [List.isEmpty_cons, Bool.false_eq_true, if_false]
    cases loadKeys file <;> simp

/-! ## what an anonymous session can run -/

deriving instance DecidableEq for Row

/-- the rows that `--server` and `--daemon` name in the main table; their codes are the regenerated `OPT_SERVER` and
`OPT_DAEMON`, so a renumbering in the source leaves `gate_rows` and `runMain_server_daemon` true -/
def rowServer : Row := ⟨"server".toList, [], .none, none, optServer⟩
def rowDaemon : Row := ⟨"daemon".toList, [], .none, none, optDaemon⟩

theorem gate_rows :
    ["--server".toList, "--daemon".toList].map (longRow mainRows) = [rowServer, rowDaemon].map some := by
  decide +kernel

theorem runMain_server_daemon (all : List Str) (ts : List LTok) (s : St) :
    runMain all (.opt rowServer [] :: .opt rowDaemon [] :: ts) s = runDaemon (lex daemonAllRows all) (s.set .f_am_server 1) := rfl

/-- outcomes of `maincmd.Main` that stay inside the daemon protocol against the configured modules -/
def Mode.daemonOnly : Mode → Prop
  | .daemonOverShell => True
  | .parseError => True
  | .exitRequest => True
  | _ => False

/-- a command line whose first two tokens are `--server` and `--daemon`: the main loop sets `am_server` and hands the
whole line to the daemon loop, which cannot clear it -/
theorem parse_server_daemon (all : List Str) (ts : List LTok)
    (h : lex mainRows all = .opt rowServer [] :: .opt rowDaemon [] :: ts) :
    (parse all).daemonGood .f_am_server := by
  have hkeep : daemonKeeps .f_am_server = true := by decide +kernel
  simp only [parse, parseFrom, h, runMain_server_daemon]
  exact runDaemon_keeps .f_am_server (by decide) hkeep _ _ (lex_from daemonAllRows all) (by simp [St.set])

theorem daemonOnly_of_daemonGood (args : List Str) (h : (parse args).daemonGood .f_am_server) :
    Mode.daemonOnly (dispatch args) := by
  unfold dispatch
  cases hp : parse args with
  | ok s' =>
    rw [hp] at h
    have a1 : acc s' .Daemon = true := by simp [acc, accField, h.2]
    have a2 : acc s' .Server = true := by simpa [acc, accField] using h.1
    simp [a1, a2, Mode.daemonOnly]
  | unmodelled => rw [hp] at h; exact h.elim
  | _ => trivial

theorem lex_server_daemon (rest : List Str) :
    lex mainRows ("--server".toList :: "--daemon".toList :: rest) = .opt rowServer [] :: .opt rowDaemon [] :: lex mainRows rest :=
  lex_longs mainRows _ _ gate_rows rest

/-- **Whatever follows `--server --daemon` on the command line, `Main` either fails to parse it or
speaks the daemon protocol**: no argument (`--sender`, `-e cmd`, paths, `--config`, …) can turn the
session into a command-mode server, a client-mode transfer or a listening daemon. -/
theorem server_daemon_only_daemon (rest : List Str) :
    Mode.daemonOnly (dispatch ("--server".toList :: "--daemon".toList :: rest)) := by
  -- with the concrete line in the goal, every elaboration step against it would run the parser up to `rest`
  generalize h : "--server".toList :: "--daemon".toList :: rest = all
  exact daemonOnly_of_daemonGood all (parse_server_daemon all _ (h ▸ lex_server_daemon rest))

/-- on an anonymous listener the gate alone decides (it fails on the empty command line) -/
theorem exec_anonymous (cmdline : List Str) :
    exec true cmdline = if gate cmdline then .runs (dispatch cmdline.tail) else .refused := by
  cases cmdline with
  | nil => rfl
  | cons p l => cases h : gate (p :: l) <;> simp [exec, h]

theorem lex_of_gate (cmdline : List Str) (h : gate cmdline = true) :
    ∃ ts, lex mainRows cmdline.tail = .opt rowServer [] :: .opt rowDaemon [] :: ts := by
  match cmdline, h with
  | _ :: a :: b :: rest, h =>
    simp only [gate, Bool.and_eq_true, beq_iff_eq] at h
    exact ⟨_, by rw [h.1, h.2]; exact lex_server_daemon rest⟩

/-- **on an anonymous listener, every exec command line is refused or stays inside the daemon
protocol** — client-mode transfers, remote-shell options, plain server mode on arbitrary paths
are all refused (D16) -/
theorem anon_only_daemon (cmdline : List Str) :
    match exec true cmdline with
    | .refused => True
    | .ignored => True
    | .runs m => Mode.daemonOnly m := by
  rw [exec_anonymous]
  by_cases hg : gate cmdline = true
  · obtain ⟨ts, h⟩ := lex_of_gate cmdline hg
    rw [if_pos hg]
    exact daemonOnly_of_daemonGood _ (parse_server_daemon _ ts h)
  · rw [if_neg hg]; trivial

/-- every other request type, and every other channel type, is refused; `env` runs nothing -/
theorem other_requests_refused (anonymous : Bool) (typ : String) (cmdline : List Str)
    (h1 : typ ≠ "exec") (h2 : typ ≠ "env") : (match request anonymous typ cmdline with | .refused => True | _ => False) := by
  simp [request, h1, h2]

theorem env_runs_nothing (anonymous : Bool) (cmdline : List Str) :
    (match request anonymous "env" cmdline with | .ignored => True | _ => False) := by
  simp [request]

theorem only_session_channels (typ : String) (h : typ ≠ "session") : channelAccepted typ = false := by
  simp [channelAccepted, h]

/-- the source has the shape the model stands for (regenerated facts) -/
theorem source_shape : SshSpec.factsOk = true := SshSpec.facts_ok

/-- an empty command line is refused on every listener (D27: an authorised client could crash the daemon with `exec ""`) -/
theorem empty_command_refused (anonymous : Bool) : (match exec anonymous [] with | .refused => True | _ => False) := by
  simp [exec]

/-! ## non-vacuity: the historical attacks (D16) and the one of `seeded/C20-1` are refused, the daemon command is served -/

example : (match exec true ["rsync".toList, "--server".toList, "--sender".toList, "-logDtpr".toList, ".".toList, "/etc".toList] with | .refused => true | _ => false) = true := by decide
example : (match exec true ["rsync".toList, "-e".toList, "sh -c id".toList, "localhost:foo".toList, "/tmp".toList] with | .refused => true | _ => false) = true := by decide
example : (match exec true ["rsync".toList, "--server".toList, "-e".toList, "--daemon".toList, ".".toList, "/x".toList] with | .refused => true | _ => false) = true := by decide
/-- an authorised session may run a command-mode server (that is what authorisation is for) -/
example : (match exec false ["rsync".toList, "--server".toList, "--sender".toList, "-r".toList, ".".toList, "/srv".toList] with
    | .runs (.serverSender _) => true | _ => false) = true := by decide +kernel
example : (match exec true ["rsync".toList, "--server".toList, "--daemon".toList, ".".toList] with
    | .runs .daemonOverShell => true | _ => false) = true := by decide +kernel

end C20
