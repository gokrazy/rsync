import RsyncModel.GeneratorThm
import RsyncModel.FsSitesSpec
import RsyncModel.Daemon
/-! # C10 — a dry run changes nothing (receiver side: generator, receive tail, directory touch-up)

The file-system call sites behind these model functions are those of the regenerated `FsSites`
facts, pinned by `dryrun_sites_guarded` below. -/
namespace C10
open Rx

/-- **The generator does not touch the destination entry under `-n`**, whatever the entry type,
the destination state and the other options, and it never sends a checksum header (a data request):
at most the bare index. -/
theorem generator_dry_run (o : Opts) (e : Entry) (d : Option Node) (h : o.dryRun = true) :
    (genStep o e d).node = d ∧ ((genStep o e d).req = .none ∨ (genStep o e d).req = .indexOnly) ∧
      (genStep o e d).retouch = false := by
  by_cases h1 : e.kind = .dir
  · simp [genStep_dir d h1, h]
  by_cases h2 : (o.links && e.kind == .lnk) = true
  · simp only [Bool.and_eq_true, beq_iff_eq] at h2
    simp [genStep_lnk d h2.2 h2.1, h]
  by_cases h3 : wantsDev o e = true
  · simp [genStep_dev d h3, h]
  by_cases h4 : e.kind = .reg
  · rw [genStep_reg d h4]
    cases d with
    | none => simp [h]
    | some n => simp only [h, if_true, setPerms_eq]; split <;> (try split) <;> simp
  · simp [genStep_other d h1 (by simpa using h2) (by simpa using h3) h4]

/-- the receive tail (rename + metadata) is skipped entirely -/
theorem receive_tail_dry_run (o : Opts) (e : Entry) (d : Option Node) (size : Int) (sum : Bytes)
    (h : o.dryRun = true) : recvFinish o e d size sum = d := by
  simp [recvFinish, h]

/-- `setPerms` and the directory touch-up are no-ops -/
theorem set_perms_dry_run (o : Opts) (e : Entry) (k : Kind) (p : Nat) (n : Node) (h : o.dryRun = true) :
    setPerms o e k p n = n := by simp [setPerms_eq, h]

theorem touch_up_dry_run (o : Opts) (e : Entry) (n : Node) (h : o.dryRun = true) : touchUp o e n = n := by
  unfold touchUp; split
  · rfl
  · simp

/-- **Regenerated fact** (every mutating file-system call site of internal/receiver, from the current
source): each one is dominated by an `if rt.Opts.DryRun { return … }` in its own function, or lies
in a function that cannot be called from outside the package and is only called from positions that
are (transitively) so dominated; and nothing inside a dry-run branch mutates. A guard that is
removed, moved below a mutation, or a new unguarded mutation breaks this `decide`. -/
theorem dryrun_sites_guarded : FsSitesSpec.drySafe = true ∧ FsSitesSpec.dryBranchPure = true :=
  FsSitesSpec.dry_sites_guarded

/-- non-vacuity: without `-n` the same step does change the destination (so the theorem is not
true merely because the model never changes anything) -/
example : ∃ o e, o.dryRun = false ∧ (genStep o e none).node ≠ none :=
  ⟨⟨false, true, false, false, false, false, false, false, false, false, false, false, 0o22, 0, 0⟩,
   ⟨.lnk, 0o777, 0, 0, 0, 0, [116], 0, []⟩, rfl, by decide⟩

/-- **D40, kernel-checked witness: the theorems above are about the generator and the receiver; the daemon's
*handler* creates the requested subdirectory before anybody looks at `--dry-run`.** For the argument lines of a dry-run
upload into `rw/new/sub/` the handler model's events contain the `MkdirAll` of that subdirectory (the same request
against the implementation is a case of the daemon suite and a known finding). So "a dry run changes nothing" is proved
partially: for everything the transfer does once the destination root is open. -/
theorem dry_run_upload_creates_subdirectory_witness :
    (match Daemon.handle [⟨"rw".toList, true, false, true⟩] "@RSYNCD: 27".toList "rw".toList
        ["--server".toList, "-nlogDtpr".toList, ".".toList, "rw/new/sub".toList, []] with
     | .receiver m (some s) => (Daemon.events (.receiver m (some s))).any (fun e => e == Daemon.FsEvent.mkdirAllSubdirInRoot s)
     | _ => false) = true := by decide +kernel

end C10
