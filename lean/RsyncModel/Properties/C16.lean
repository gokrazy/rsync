import RsyncModel.TagTable
import RsyncModel.PureTie
import RsyncModel.Delta.Honest
import RsyncModel.Delta.GoThm
/-! # C16 — unchanged data is not re-sent: matches are found at every byte offset -/
namespace C16
open Spec Delta

/-- **Greedy completeness**: a byte is sent as a literal only if no block of the signature matches
the window that starts at that byte — at whatever offset the scan is. -/
theorem literal_only_if_no_match (c : Ctx) (p : Pick c) (x : UInt8) (xs : Bytes) (r : List Tok)
    (h : greedy c p (x :: xs) = Tok.lit x :: r) : ∀ i, c.matches (c.win (x :: xs)) i = false := by
  rw [greedy] at h
  cases hf : p.f (c.win (x :: xs)) with
  | some i => rw [hf] at h; simp at h
  | none => exact p.complete _ hf

/-- **An identical file costs no literal data at all.** -/
theorem identical_no_literal (c : Ctx) (p : Pick c) (basis : Bytes)
    (hb : c.blocks = honestBlocks c.W c.H (splitBlocks c.blm1 basis)) :
    ∀ tok ∈ greedy c p basis, ∃ i, tok = Tok.ref i :=
  identical_refs_only c p basis [] (by simpa using hb)

/-- **Leftmost matching**: unmatched bytes in front of the scan position cost exactly themselves. -/
theorem skip_unmatched (c : Ctx) (p : Pick c) (u v : Bytes)
    (h : ∀ k, k < u.length → p.f (c.win ((u ++ v).drop k)) = none) :
    greedy c p (u ++ v) = u.map Tok.lit ++ greedy c p v := by
  induction u with
  | nil => rfl
  | cons x xs ih =>
    have h0 : p.f (c.win (x :: (xs ++ v))) = none := h 0 (Nat.zero_lt_succ _)
    rw [List.cons_append, greedy, h0]
    exact congrArg _ (ih fun k hk => h (k + 1) (Nat.succ_lt_succ hk))

/-- **Matches at every byte offset**: data shifted by an insertion of *any* length (so that block
boundaries fall on arbitrary, unaligned offsets of the new file) is transmitted as references; the
literal data is the insertion itself (when no window that starts inside the insertion happens to
match a block — the formal content of "high-entropy data"). -/
theorem shifted_data_found (c : Ctx) (p : Pick c) (ins basis : Bytes)
    (hb : c.blocks = honestBlocks c.W c.H (splitBlocks c.blm1 basis))
    (hno : ∀ k, k < ins.length → p.f (c.win ((ins ++ basis).drop k)) = none) :
    ∃ refs : List Tok, (∀ tok ∈ refs, ∃ i, tok = Tok.ref i) ∧
      greedy c p (ins ++ basis) = ins.map Tok.lit ++ refs :=
  ⟨greedy c p basis, identical_no_literal c p basis hb, skip_unmatched c p ins basis hno⟩

/-- The Go-level loop emits the specification's tokens, so all of the above hold for the real
sender's stream (refinement, see C02). -/
theorem go_loop_is_greedy (Hs : Bytes → Bytes) (h : Head) (sums : List Delta.Sum) (t : Bytes)
    (hbl : h.bl < 4294967296) :
    flat (senderTokens Hs h sums t) =
      greedy (mkCtx Hs h sums) (pickGo (mkCtx Hs h sums) (mkCtx_W Hs h sums)) t :=
  senderTokens_eq_greedy Hs h sums t hbl

/-- The rolling pair is the weak sum of the current window at every loop head (the invariant that
makes matching work at offsets other than 0 and other than right after a match). -/
theorem rolling_invariant (c : Ctx) (hbl : c.bl < 4294967296) (x : UInt8) (xs : Bytes) :
    rollGo c (wsum (c.win (x :: xs))) x xs = wsum (c.win xs) := rollGo_wsum c hbl x xs


/-! ### Tie to the source (regenerated translation `Gen.Pure`, see `tools/extract/pure.go`) -/

/-- **The rolling update the source performs is exact.** `Gen.Pure.rollUpdate` is the translation of
the statements `s1 -= SignExtend(update[0]) … s2 = uint32(uint16(s2))` of `hashSearch`, regenerated
from /repo on every run: from the weak sum of the window `x :: w` (any length, any position in the
file) it produces the weak sum of the window shifted by one byte, `w ++ [y]` — so matches are found
at every byte offset, not only on block boundaries. No index is out of range. -/
theorem source_rolling_update (x y : UInt8) (w tl : Bytes) :
    Gen.Pure.rollUpdate (wsum (x :: w)).1 (wsum (x :: w)).2 ((w.length + 1 : Nat) : Int) (x :: (w ++ y :: tl)) true
      = .ok ((wsum (w ++ [y])).1, (wsum (w ++ [y])).2, ((w.length + 1 : Nat) : Int)) := by
  rw [PureTie.rollUpdate_more, rollStep_wsum x y w _ (by simpa using PureTie.cong_ofInt_nat (w.length + 1))]

/-- at the end of the file (no further byte) the source's update is the weak sum of the shrunk window -/
theorem source_rolling_update_last (x : UInt8) (w : Bytes) :
    Gen.Pure.rollUpdate (wsum (x :: w)).1 (wsum (x :: w)).2 ((w.length + 1 : Nat) : Int) (x :: w) false
      = .ok ((wsum w).1, (wsum w).2, (w.length : Int)) := by
  rw [PureTie.rollUpdate_last, dropStep_wsum x w _ (by simpa using PureTie.cong_ofInt_nat (w.length + 1))]
  simp

/-- the source's `Checksum1` (4-unrolled loop, regenerated) yields, through the halves `readChunk`
takes, exactly the weak sum the rolling update maintains: generator and sender agree on it -/
theorem source_checksum1_is_weak_sum (buf : Bytes) :
    ∃ v, Gen.Pure.Checksum1 buf = .ok v ∧ Gen.Pure.sumHalves v 0 0 = wsum buf := by
  refine ⟨checksum1 buf, PureTie.checksum1_tied buf, ?_⟩
  rw [PureTie.sumHalves_tied]; exact checksum1_halves buf

/-- the packed sum compared with `Sum1` and the 16-bit tag are the model's -/
theorem source_pack_and_tag (s1 s2 x sum : UInt32) :
    Gen.Pure.packSum s1 s2 x = pack (s1, s2) ∧ Gen.Pure.Tag sum = tag sum :=
  ⟨PureTie.packSum_tied s1 s2 x, PureTie.tag_tied sum⟩


/-- **one pass of the source's rolling update is the algorithm level's step `rollGo`** — the step
about which the refinement chain (Go-level loop ⊑ Alg-B ⊑ Alg-A ⊑ greedy) is proved: with the window
length `k` and the flag `more` as `hashSearch` computes them, the statements translated from /repo
return `rollGo`'s pair, whether a byte follows the window or the window only shrinks. -/
theorem source_rolling_update_is_model_step (c : Ctx) (s : UInt32 × UInt32) (x : UInt8) (xs : Bytes) :
    (c.bl ≤ xs.length →
      Gen.Pure.rollUpdate s.1 s.2 (c.bl : Int) (x :: xs) true = .ok ((rollGo c s x xs).1, (rollGo c s x xs).2, (c.bl : Int))) ∧
    (¬ c.bl ≤ xs.length →
      Gen.Pure.rollUpdate s.1 s.2 ((xs.length + 1 : Nat) : Int) (x :: xs) false
        = .ok ((rollGo c s x xs).1, (rollGo c s x xs).2, (xs.length : Int))) := by
  have hbl1 : 1 ≤ c.bl := by simp [Ctx.bl]
  constructor
  · intro h
    unfold rollGo
    rw [dif_pos h]
    obtain ⟨w, tl, hw, hlen⟩ : ∃ w tl, xs = w ++ (xs[c.bl - 1]'(by omega)) :: tl ∧ w.length = c.bl - 1 := by
      refine ⟨xs.take (c.bl - 1), xs.drop c.bl, ?_, by simp; omega⟩
      have h1 : c.bl - 1 < xs.length := by omega
      have := List.take_append_drop (c.bl - 1) xs
      conv => lhs; rw [← this]
      congr 1
      rw [List.drop_eq_getElem_cons h1]
      have e : c.bl - 1 + 1 = c.bl := by omega
      rw [e]
    have hk : (c.bl : Int) = ((w.length + 1 : Nat) : Int) := by omega
    rw [hk]
    conv => lhs; rw [hw]
    rw [PureTie.rollUpdate_more, PureTie.ofInt_natCast]
    have : w.length + 1 = c.bl := by omega
    rw [this]
  · intro h
    unfold rollGo
    rw [dif_neg h, PureTie.rollUpdate_last, PureTie.ofInt_natCast]
    have e : ((xs.length + 1 : Nat) : Int) - 1 = (xs.length : Int) := by omega
    rw [e]

/-! ### The tag table: a pre-filter that misses nothing -/

/-- **every block with the window's tag is a candidate**: for a table of `(tag, block)` pairs sorted
by tag — any number of blocks, any multiplicity of a tag, any block index — the scan `hashSearch`
performs from the table's first entry for the tag, while the tag stays equal, visits exactly the
blocks with that tag. So whether a match is found does not depend on where in the (arbitrarily
large) signature the block stands. -/
theorem tag_lookup_complete (targets : List (Nat × Nat)) (t : Nat) (hs : TagTable.SortedByTag targets) :
    TagTable.lookup targets t = (targets.filter (fun p => p.1 == t)).map (·.2) :=
  TagTable.lookup_complete targets t hs

/-- **Regenerated (as text)**: how `SendFiles` builds that table — one pair per block carrying the
block's *full* index and `Tag(sum1)`, sorted by tag alone with `sort.Slice`, the index map filled
from the back so that it points at the first entry of each tag. (The construction sorts structs
through a closure and fills a map, which the translator does not cover; it is pinned verbatim, so a
different key, a truncated index or another fill order is a broken obligation.) -/
theorem tag_table_construction :
    Gen.Pure.tagTableSetup = ["targets := make([]target, len(head.Sums))", "tagTable := make(map[uint16]int)",
      "{ for idx, sum := range head.Sums { targets[idx] = target{ index: int32(idx), tag: rsyncchecksum.Tag(sum.Sum1), } } sort.Slice(targets, func(i, j int) bool { return targets[i].tag < targets[j].tag }) for idx := len(head.Sums) - 1; idx >= 0; idx-- { tagTable[targets[idx].tag] = idx } }"] := rfl

end C16
