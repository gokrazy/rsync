import RsyncModel.Properties.C05
import RsyncModel.Daemon
/-! # C06 — a daemon discloses only what lies inside the requested module

(1) Every file-system access of the sending code goes through the `FileSource` (the module's
`*os.Root` or the configured `fs.FS`) and none mutates — regenerated table. (2) The contract of the
root (C05's `root_confined`, validated by the `rootfs` suite) confines every `Open`, `Readlink` and
every step of the walk, whatever symbolic links the module contains. (3) The name the walk starts
from — the request after module-prefix trimming, `"."`-prefixing of absolute paths and
`filepath.Clean` — is never rooted, and is either a valid `io/fs` path (no `..` element) or begins
with `..`, which `io/fs` refuses before anything is opened: traversal attempts give an empty listing
(with the I/O-error flag) or an error. -/
namespace C06
open PathClean

def dd : Str := [dot, dot]
def Normal (c : Str) : Prop := c ≠ [] ∧ c ≠ [dot] ∧ c ≠ dd

/-- the stack of kept components is `ns ++ us`: normal ones on top of leading `..`s -/
theorem cleanComps_shape (cs : List Str) (ns us : List Str) (hn : ∀ c ∈ ns, Normal c) (hu : ∀ c ∈ us, c = dd) :
    ∃ us' ns', cleanComps false cs (ns ++ us) = us' ++ ns' ∧ (∀ c ∈ us', c = dd) ∧ (∀ c ∈ ns', Normal c) := by
  induction cs generalizing ns us with
  | nil =>
    refine ⟨us.reverse, ns.reverse, by simp [cleanComps], ?_, ?_⟩
    · intro c hc
      exact hu c (by simpa using hc)
    · intro c hc
      exact hn c (by simpa using hc)
  | cons c rest ih =>
    simp only [cleanComps]
    by_cases h1 : (c == [] || c == [dot]) = true
    · rw [if_pos h1]
      exact ih ns us hn hu
    · rw [if_neg h1]
      have hc1 : c ≠ [] ∧ c ≠ [dot] := by
        simp only [Bool.or_eq_true, beq_iff_eq, not_or] at h1
        exact h1
      by_cases h2 : (c == [dot, dot]) = true
      · rw [if_pos h2]
        have hcd : c = dd := by simpa [dd] using h2
        cases ns with
        | nil =>
          cases us with
          | nil => exact ih [] [c] (by simp) (by simp [hcd])
          | cons u us' =>
            have hud : u = dd := hu u (by simp)
            have : (u == [dot, dot]) = true := by simp [hud, dd]
            simp only [List.nil_append, this, if_true]
            exact ih [] (c :: u :: us') (by simp) (by
              intro x hx
              rcases List.mem_cons.mp hx with rfl | hx
              · exact hcd
              · exact hu x hx)
        | cons n ns' =>
          have hnn : Normal n := hn n (by simp)
          have : (n == [dot, dot]) = false := by
            have := hnn.2.2
            simp [dd] at this
            simp [this]
          simp only [List.cons_append, this, Bool.false_eq_true, if_false]
          exact ih ns' us (fun x hx => hn x (by simp [hx])) hu
      · rw [if_neg h2]
        have hcn : Normal c := ⟨hc1.1, hc1.2, by simpa [dd] using h2⟩
        exact ih (c :: ns) us (by
          intro x hx
          rcases List.mem_cons.mp hx with rfl | hx
          · exact hcn
          · exact hn x hx) hu

/-- the name `fs.WalkDir` is started with (sender/flist.go `walk`) -/
def walkName (requested : Str) : Str :=
  clean (if requested.head? == some slash then dot :: requested else requested)

/-- the components of the walk root: `..` elements can only lead -/
theorem walk_root_components (s : Str) :
    ∃ us ns, cleanComps false (splitSlash s) [] = us ++ ns ∧ (∀ c ∈ us, c = dd) ∧ (∀ c ∈ ns, Normal c) :=
  cleanComps_shape (splitSlash s) [] [] (by simp) (by simp)

/-- what is handed to `filepath.Clean`: never an absolute path, whatever the client requests -/
def walkArg (requested : Str) : Str := if requested.head? == some slash then dot :: requested else requested

theorem walkArg_relative (requested : Str) : (walkArg requested).head? ≠ some slash := by
  unfold walkArg
  by_cases h : (requested.head? == some slash) = true
  · rw [if_pos h]; simp [dot, slash]
  · rw [if_neg h]
    intro e; simp [e] at h

/-- **the walk root is the relative join of its cleaned components** (the rooted branch of `Clean`
is never taken), and by `walk_root_components` those are some `..` followed by ordinary names:
either a valid `io/fs` path below the module root, or a path beginning with `..`, which `io/fs`
(`fs.ValidPath`, checked by `os.Root.FS().Open`) refuses before anything is opened -/
theorem walk_root_relative (requested : Str) :
    walkName requested =
      (let comps := cleanComps false (splitSlash (walkArg requested)) []
       if walkArg requested == [] then [dot] else if joinSlash comps == [] then [dot] else joinSlash comps) := by
  have hr : ((walkArg requested).head? == some slash) = false := beq_eq_false_iff_ne.mpr (walkArg_relative requested)
  show clean (walkArg requested) = _
  unfold clean
  simp only [hr, Bool.false_eq_true, if_false]

/-- every access of the sending code goes through the file source and none mutates (regenerated
table); the only raw path is the module directory the root is opened on; the walk root is cleaned -/
theorem sender_sites_confined :
    FsSitesSpec.senderConfined = true ∧ FsSitesSpec.rawArgsPinned = true ∧ FsSitesSpec.rootNamesClean = true :=
  ⟨FsSitesSpec.sender_sites_confined, FsSitesSpec.raw_args_pinned, FsSitesSpec.root_names_clean⟩

/-- every `Open`/`Readlink`/walk step through the module's root is confined to the module (C05) -/
theorem module_root_confined (fs : RootFs.FS) (root : RootFs.Loc) (follow : Bool) (name : List UInt8) (loc : RootFs.Loc)
    (h : RootFs.openName fs root follow name = .res (.ok loc)) : root <+: loc :=
  C05.root_confined fs root follow name loc h

/-- non-vacuity: the request `../o` has the components `..`, `o` (a walk root beginning with `..`);
`/s//x/.` is walked as `s/x`, `/../etc` as `../etc` -/
example : cleanComps false (splitSlash (walkArg [46, 46, 47, 111])) [] = [dd, [111]] := by decide
example : walkName [47, 115, 47, 47, 120, 47, 46] = [115, 47, 120] := by decide
example : walkName [47, 46, 46, 47, 101, 116, 99] = [46, 46, 47, 101, 116, 99] := by decide

end C06
