import RsyncModel.RootFs
import RsyncModel.FsSitesSpec
import RsyncModel.PathClean
/-! # C05 — a receiver never touches anything outside its destination directory

Three layers. (1) The contract of `*os.Root`, as an executable model validated against the real
thing by the `rootfs` suite: a successful resolution lies at or below the root, for every tree,
every set of symbolic links and every name. (2) The regenerated table of *every* file-system call
site of the receiving code: each names its target through the root handle (or fd-relative to a
directory opened through it, or on an already open handle), the daemon's raw paths are exactly the
configured module path, and every name that reaches a root method is slash-clean. (3) The names
themselves: what `filepath.Base` of a cleaned name can be (device nodes, fifos and sockets are
created relative to a root-resolved parent directory under that base name). -/
namespace C05
open RootFs

/-- **confinement of the contract**: whatever the file-system tree, whatever symbolic links exist or
were created earlier in the same transfer (inside-, outside-, upward-pointing, absolute, dangling,
circular), and whatever name a hostile file list carries (`..`, absolute, through links), a method of
the root either fails or reaches a location at or below the root -/
theorem root_confined (fs : FS) (root : Loc) (follow : Bool) (name : List UInt8) (loc : Loc)
    (h : openName fs root follow name = .res (.ok loc)) : root <+: loc := by
  unfold openName at h
  split at h
  · cases h
  · split at h
    · cases h
    · injection h with h; exact resolve_confined fs root follow _ root _ loc (List.prefix_refl _) h

/-- an absolute name is refused outright, and `..` from the root escapes -/
theorem absolute_refused (fs : FS) (root : Loc) (follow : Bool) (rest : List UInt8) :
    openName fs root follow (47 :: rest) = .res .escapes := by
  simp [openName]

theorem dotdot_at_root_refused (fs : FS) (root : Loc) (follow : Bool) (n : Nat) (rest : List Name) :
    resolve fs root follow (n + 1) root (dotdot :: rest) = .escapes := by
  simp [resolve, dotdot, dot]

/-- a symbolic link with an absolute target is never followed -/
theorem absolute_link_refused (fs : FS) (root cur : Loc) (n : Nat) (c : Name) (t : List Name) (rest : List Name)
    (hc : c ≠ [] ∧ c ≠ dot ∧ c ≠ dotdot) (hl : fs (cur ++ [c]) = some (.link t true)) (hr : rest ≠ []) :
    resolve fs root true (n + 1) cur (c :: rest) = .escapes := by
  have h1 : (c == [] || c == dot) = false := by simp [hc.1, hc.2.1]
  have h2 : (c == dotdot) = false := by simp [hc.2.2]
  have h3 : rest.isEmpty = false := by cases rest <;> simp_all
  simp only [resolve, h1, h2, hl, h3, Bool.false_eq_true, if_false, Bool.false_and, if_true]

/-- **every file-system call site of the receiving code is confined** (regenerated table, decided
over the whole table): through the root / fd-relative / open handle only; no raw path in the
receiver; in the daemon only the configured module path; every name handed to a root method is
slash-clean (decoded names are cleaned, the daemon's subdirectory argument is cleaned — D28) -/
theorem receiver_sites_confined :
    FsSitesSpec.receiverConfined = true ∧ FsSitesSpec.daemonRawOnlyModuleRoot = true ∧
    FsSitesSpec.rawArgsPinned = true ∧ FsSitesSpec.rootNamesClean = true :=
  ⟨FsSitesSpec.receiver_sites_confined, FsSitesSpec.daemon_sites_guarded.2, FsSitesSpec.raw_args_pinned, FsSitesSpec.root_names_clean⟩

/-! ### the base name device nodes are created under -/

/-- last component of a slash-separated name (`filepath.Base` of a cleaned, non-root name) -/
def base (s : List UInt8) : List UInt8 := ((PathClean.splitSlash s).getLast?).getD []

theorem splitSlash_no_slash (s : List UInt8) : ∀ c ∈ PathClean.splitSlash s, PathClean.slash ∉ c := by
  induction s with
  | nil => simp [PathClean.splitSlash]
  | cons b rest ih =>
    rw [PathClean.splitSlash, List.foldr_cons, ← PathClean.splitSlash]
    by_cases hb : (b == PathClean.slash) = true
    · rw [if_pos hb]; simpa using ih
    · rw [if_neg hb]
      have hb' : PathClean.slash ≠ b := fun e => hb (by simp [e])
      cases hx : PathClean.splitSlash rest with
      | nil => simp [hb']
      | cons x r =>
        rw [hx, List.forall_mem_cons] at ih
        rw [List.forall_mem_cons]
        exact ⟨by simpa [hb'] using ih.1, ih.2⟩

/-- **the name given to `mknodat`/`mkfifoat`/`bind` contains no slash**: it names an entry of the
root-resolved parent directory and nothing else -/
theorem device_base_safe (s : List UInt8) : PathClean.slash ∉ base s := by
  unfold base
  cases h : (PathClean.splitSlash s).getLast? with
  | none => simp
  | some c =>
    simp only [Option.getD_some]
    exact splitSlash_no_slash s c (List.mem_of_getLast? h)

/-- non-vacuity: a tree with an outside-pointing link; the name through it is refused, the name beside it resolves inside -/
example :
    let fs : FS := fun l =>
      if l == [[114]] then some .dir                      -- /r (the root)
      else if l == [[114], [108]] then some (.link [dotdot, [111]] false)   -- /r/l -> ../o
      else if l == [[111]] then some .dir                 -- /o (outside)
      else if l == [[114], [102]] then some .file
      else none
    openName fs [[114]] true [108, 47, 120] = .res .escapes ∧ openName fs [[114]] true [102] = .res (.ok [[114], [102]]) := by
  decide

end C05
