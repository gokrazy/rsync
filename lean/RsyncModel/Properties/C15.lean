import RsyncModel.Gen.FlistConds
import RsyncModel.PureTie
import RsyncModel.FlistThm
import RsyncModel.RoundTrip
import RsyncModel.FlistTie
/-! # C15 — the wire format conforms to rsync protocol 27

Flag values, mode bits, `PATH_MAX` and the protocol version are regenerated from the source. The
reference encoder `refEncode` is written from the protocol-27 description (rsync 2.6.x
`send_file_entry`), with every compression choice a conforming sender may make as a parameter. -/
namespace C15
open Flist Wire

/-- int32 on the wire round-trips for every value -/
theorem int32_roundtrip (v : Int32) (rest : Str) : decI32 (encI32 v ++ rest) = some (v, rest) := decI32_encI32 v rest

/-- the 32/64-bit "long" (int32, or −1 followed by int64) round-trips for every 64-bit value:
0, 2³¹−1, 2³¹, 2⁴⁰ and negative values included -/
theorem long_roundtrip (v : Int64) (rest : Str) : decLong (encLong v ++ rest) = some (v, rest) := decLong_encLong v rest

/-- the checksum header (four int32) round-trips for every header the receiver accepts -/
theorem sumhead_roundtrip (h : Delta.Head) (r : Str) (ok : Recv.HeadOk h) :
    Recv.readHead (Recv.encHead h ++ r) = .ok (h, r) := Recv.readHead_encHead h r ok

/-- **Every legal protocol-27 encoding of an entry is decoded into exactly the entry that was
sent**: name-prefix compression with any shared prefix ≤ 255, one-byte and four-byte name lengths,
`SAME_MODE/TIME/UID/GID/RDEV` whenever the value repeats, 32- and 64-bit file lengths. -/
theorem gokr_decodes_reference_encoding (o : Opts) (c : Choice) (last e : Entry) (rest : Str)
    (ok : ChoiceOk o c last e) (hclean : PathClean.clean e.name = e.name)
    (htl : e.target.length < pathMax) (hsum : o.checksum = true → e.sum.length = 16) :
    decodeEntry o (flagsOf c) last ((refEncode o c e).tail ++ rest) = .ok (project o e, rest) :=
  decode_refEncode o c last e rest ok hclean htl hsum

/-- the same for whole lists (entries in wire order, the zero flag byte terminates) -/
theorem gokr_decodes_reference_list (o : Opts) (ces : List (Choice × Entry)) (rest : Str)
    (h : Chain o zeroEntry ces) :
    decodeList o zeroEntry (ces.length + 1) (encodeList o ces ++ rest) = .ok (ces.map (fun ce => project o ce.2), rest) :=
  decodeList_encodeList o ces zeroEntry rest (ces.length + 1) (Nat.lt_succ_self _) h

/-- **gokrazy's own encoding is a legal protocol-27 encoding** (long name, nothing shared,
`XMIT_TOP_DIR` on `.`), and is read back by its own decoder. -/
theorem gokr_encoding_is_legal (o : Opts) (e : Entry) : gokrEncode o e = refEncode o (gokrChoice e) e :=
  gokrEncode_eq_ref o e

theorem gokr_decodes_gokr (o : Opts) (last e : Entry) (rest : Str) (hlen : e.name.length < pathMax)
    (hclean : PathClean.clean e.name = e.name) (htl : e.target.length < pathMax)
    (hsum : o.checksum = true → e.sum.length = 16) :
    decodeEntry o (flagsOf (gokrChoice e)) last ((gokrEncode o e).tail ++ rest) = .ok (project o e, rest) :=
  decode_gokrEncode o last e rest hlen hclean htl hsum

/-- **Both sides number the files identically** when names are distinct. -/
theorem same_numbering {le : Str → Str → Prop} (anti : ∀ a b, le a b → le b a → a = b)
    (l s r : List Entry) (hs : s.Perm l) (hr : r.Perm l)
    (hss : s.Pairwise (fun x y => le x.name y.name)) (hrs : r.Pairwise (fun x y => le x.name y.name))
    (hnd : (l.map (·.name)).Nodup) : s = r := index_agreement anti l s r hs hr hss hrs hnd

/-- the protocol version spoken is 27 and the flag/mode constants are the protocol's (regenerated) -/
theorem protocol_constants :
    Gen.Consts.ProtocolVersion = 27 ∧ Gen.Consts.XMIT_TOP_DIR = 1 ∧ Gen.Consts.XMIT_SAME_MODE = 2 ∧
    Gen.Consts.XMIT_SAME_RDEV_pre28 = 4 ∧ Gen.Consts.XMIT_SAME_UID = 8 ∧ Gen.Consts.XMIT_SAME_GID = 16 ∧
    Gen.Consts.XMIT_SAME_NAME = 32 ∧ Gen.Consts.XMIT_LONG_NAME = 64 ∧ Gen.Consts.XMIT_SAME_TIME = 128 ∧
    Gen.Consts.S_IFMT = 0o170000 ∧ Gen.Consts.S_IFDIR = 0o040000 ∧ Gen.Consts.S_IFREG = 0o100000 ∧
    Gen.Consts.S_IFLNK = 0o120000 ∧ Gen.Consts.S_IFCHR = 0o020000 ∧ Gen.Consts.S_IFBLK = 0o060000 ∧
    Gen.Consts.S_IFIFO = 0o010000 ∧ Gen.Consts.S_IFSOCK = 0o140000 := by decide

/-- non-vacuity: a concrete compressed two-entry list (`abc`, then `abd` sharing two bytes, same
time and mode, one-byte length) meets `Chain` -/
example : Chain ⟨false, false, false, false, false, false⟩ zeroEntry
    [(⟨0, true, false, false, false, false, false, false⟩, ⟨[97, 98, 99], 5, 7, 0o100644, 0, 0, 0, [], []⟩),
     (⟨2, false, true, true, false, false, false, false⟩, ⟨[97, 98, 100], 1099511627776, 7, 0o100644, 0, 0, 0, [], []⟩)] := by
  refine ⟨⟨?_, ?_, ?_, ?_, ?_, ?_, ?_, ?_, ?_, ?_, ?_⟩, ?_, ?_, ?_, ?_, ⟨?_, ?_, ?_, ?_, ?_, ?_, ?_, ?_, ?_, ?_, ?_⟩, ?_, ?_, ?_, ?_, trivial⟩
  all_goals decide


/-! ### Tie to the source (regenerated translation `Gen.Pure`) -/

/-- `WriteInt64` (both the connection's and the buffer's) sends 32 bits exactly when the model's
`encLong` does: the condition is translated from /repo on every run -/
theorem source_long_threshold (v : Int64) :
    Gen.Pure.int64Short v.toInt false = decide (0 ≤ v ∧ v ≤ 0x7FFFFFFF) ∧
    Gen.Pure.int64ShortBuf v.toInt false = Gen.Pure.int64Short v.toInt false :=
  ⟨PureTie.int64Short_tied v, PureTie.int64ShortBuf_tied v.toInt⟩


/-- **The source's 64-bit reader is the model's `decLong`** (`Conn.ReadInt64`, translated on every run): an int32
unless that is −1, then eight more bytes -/
theorem source_long_reader (inp : Str) :
    Gen.Pure.ReadInt64 inp = match decLong inp with
      | none => .err
      | some (v, rest) => .ok (v.toInt, rest) := FlistTie.readInt64_tied inp

/-- **The source's entry decoder is the model's decoder** (`receiveFileEntry`, translated from /repo on every
run; the connection's input is a byte list that is consumed): for every flag byte, previous entry, option set and
input it yields the entry and unread rest `Flist.decodeEntry` yields, and an error exactly where that has one.
Every theorem above about `decodeEntry` is therefore a theorem about the source's function. -/
theorem source_entry_decoder (o : Opts) (flags : UInt8) (last : Entry) (inp : Str) :
    Gen.Pure.receiveFileEntry flags.toUInt16 inp last.name last.mtime last.mode last.uid last.gid last.rdev
        o.uid o.gid o.links o.devices o.specials o.checksum [] 0 0 0 0 0 0 [] [] =
      FlistTie.toRes ((decodeEntry o flags last inp).map fun p =>
        (p.1.name, p.1.size.toInt, p.1.mtime, p.1.mode, p.1.uid, p.1.gid, p.1.rdev, p.1.target, p.1.sum, p.2)) :=
  FlistTie.receiveFileEntry_tied o flags last inp

/-- hence: **the source's decoder reads every legal protocol-27 encoding of an entry back into the entry sent** -/
theorem source_decodes_reference_encoding (o : Opts) (c : Choice) (last e : Entry) (rest : Str)
    (ok : ChoiceOk o c last e) (hclean : PathClean.clean e.name = e.name)
    (htl : e.target.length < pathMax) (hsum : o.checksum = true → e.sum.length = 16) :
    Gen.Pure.receiveFileEntry (flagsOf c).toUInt16 ((refEncode o c e).tail ++ rest) last.name last.mtime last.mode
        last.uid last.gid last.rdev o.uid o.gid o.links o.devices o.specials o.checksum [] 0 0 0 0 0 0 [] [] =
      .ok ((project o e).name, (project o e).size.toInt, (project o e).mtime, (project o e).mode, (project o e).uid,
           (project o e).gid, (project o e).rdev, (project o e).target, (project o e).sum, rest) := by
  rw [source_entry_decoder, gokr_decodes_reference_encoding o c last e rest ok hclean htl hsum]
  rfl

/-- **The source's list loop is the model's `decodeList`** (`ReceiveFileList`'s `for`, translated): the entries in
wire order, the unread rest, an error where the model has one; it ends within `len(input)+1` iterations. -/
theorem source_list_decoder (o : Opts) (inp : Str) :
    Gen.Pure.recvListLoop inp [] [] 0 0 0 0 0 o.uid o.gid o.links o.devices o.specials o.checksum =
      FlistTie.toRes ((decodeList o zeroEntry (inp.length + 1) inp).map fun p => (p.1.map FlistTie.recOf, p.2)) :=
  FlistTie.recvListLoop_tied o inp

/-- and whole reference-encoded lists come back entry for entry (the model's loop is the source's, by the theorem above) -/
theorem source_decodes_reference_list (o : Opts) (ces : List (Choice × Entry)) (rest : Str)
    (h : Chain o zeroEntry ces) :
    ∃ fuel, FlistTie.toRes ((decodeList o zeroEntry fuel (encodeList o ces ++ rest)).map fun p => (p.1.map FlistTie.recOf, p.2)) =
      .ok ((ces.map (fun ce => project o ce.2)).map FlistTie.recOf, rest) :=
  ⟨ces.length + 1, by rw [gokr_decodes_reference_list o ces rest h]; rfl⟩

/-- **What the source writes for an entry is `gokrEncode`** (sender/flist.go `walkFn` from `s.fec.Reset()` to the
checksum, translated on every run with the buffer as a byte list; what the file system reports about the object —
kind, size, times, permission bits, ids, link target, file checksum — are parameters): for every kind of object,
option set and field values whose permission bits carry no type bits -/
theorem source_entry_encoder (o : Opts) (k : FlistTie.Kind) (name : Str) (size : Int64) (mtime perm uid gid rdev : Int32)
    (target fileSum fec0 : Str) (hp : perm &&& 61440 = 0) :
    Gen.Pure.sendEntry (Gen.Pure.sendEntryFlags (name == [46])) name size.toInt mtime perm (k == .dir) (k == .regular) (k == .symlink)
        (k == .charDev) (k == .charDev || k == .blockDev) (k == .pipe) (k == .socket) uid gid rdev target fileSum
        o.uid o.gid o.links o.devices o.specials o.checksum fec0 =
      .ok (gokrEncode o (FlistTie.entryOfStat k name size mtime perm uid gid rdev target fileSum)) := by
  rw [FlistTie.sendEntry_tied o k _ name size mtime perm uid gid rdev target fileSum fec0 hp, FlistTie.sendEntryFlags_tied]
  rfl

/-- **Source to source**: what the translated sender code writes for an entry, the translated receiver code reads
back as that entry (the fields the option set transmits), whatever the previous entry was and whatever follows on
the wire — for clean names and link targets shorter than `PATH_MAX` -/
theorem source_entry_roundtrip (o : Opts) (k : FlistTie.Kind) (name : Str) (size : Int64) (mtime perm uid gid rdev : Int32)
    (target fileSum fec0 rest : Str) (last : Entry) (hp : perm &&& 61440 = 0)
    (hlen : name.length < pathMax) (hclean : PathClean.clean name = name) (htl : target.length < pathMax)
    (hsum : o.checksum = true → k = .regular → fileSum.length = 16) :
    ∃ flag body, Gen.Pure.sendEntry (Gen.Pure.sendEntryFlags (name == [46])) name size.toInt mtime perm (k == .dir) (k == .regular)
        (k == .symlink) (k == .charDev) (k == .charDev || k == .blockDev) (k == .pipe) (k == .socket) uid gid rdev target fileSum
        o.uid o.gid o.links o.devices o.specials o.checksum fec0 = .ok (flag :: body) ∧
      Gen.Pure.receiveFileEntry flag.toUInt16 (body ++ rest) last.name last.mtime last.mode last.uid last.gid last.rdev
        o.uid o.gid o.links o.devices o.specials o.checksum [] 0 0 0 0 0 0 [] [] =
      (let e := project o (FlistTie.entryOfStat k name size mtime perm uid gid rdev target fileSum)
       .ok (e.name, e.size.toInt, e.mtime, e.mode, e.uid, e.gid, e.rdev, e.target, e.sum, rest)) := by
  refine ⟨flagsOf (gokrChoice (FlistTie.entryOfStat k name size mtime perm uid gid rdev target fileSum)),
    (gokrEncode o (FlistTie.entryOfStat k name size mtime perm uid gid rdev target fileSum)).tail, ?_, ?_⟩
  · rw [source_entry_encoder o k name size mtime perm uid gid rdev target fileSum fec0 hp]
    exact congrArg _ (gokrEncode_head o _)
  · rw [source_entry_decoder, gokr_decodes_gokr o last _ rest hlen hclean htl]
    · rfl
    · intro hc
      unfold FlistTie.entryOfStat
      by_cases hk : k = .regular
      · simp [hk, hsum hc hk]
      · simp [hk]

/-- **Regenerated fact**: both sides order the list with the *same*, *stable* sort function and the same
comparison (`sort.SliceStable`, `<` on the name) — since the repair of D34; before it both used the unstable
`sort.Slice`, which agrees with itself but not with a receiver that sorts stably (tridge rsync) once more than a
dozen entries are sorted and names repeat. -/
theorem both_sides_sort_alike :
    Gen.FlistConds.senderSort = Gen.FlistConds.receiverSort ∧ Gen.FlistConds.senderSort = "sort.SliceStable by <;" := ⟨rfl, rfl⟩

/-- "sorted by name, equal names in wire order": what a stable sort of a list tagged with wire positions yields -/
def StableLe (le : Str → Str → Prop) (a b : Entry × Nat) : Prop :=
  le a.1.name b.1.name ∧ (a.1.name = b.1.name → a.2 ≤ b.2)

/-- **Both sides number the files identically also when names repeat** (several source arguments naming the same
files): any two arrangements of the list that are sorted by name and keep equal names in wire order — i.e. the results
of any two *stable* sorts, gokrazy's `sort.SliceStable` and a peer's merge sort alike — are the same list. -/
theorem stable_numbering {le : Str → Str → Prop} (anti : ∀ a b, le a b → le b a → a = b)
    (l s r : List (Entry × Nat)) (hs : s.Perm l) (hr : r.Perm l)
    (hss : s.Pairwise (StableLe le)) (hrs : r.Pairwise (StableLe le))
    (hsame : ∀ a ∈ l, ∀ b ∈ l, a.2 = b.2 → a = b) : s = r := by
  apply List.Perm.eq_of_pairwise (le := StableLe le) _ hss hrs (hs.trans hr.symm)
  intro a b ha hb h1 h2
  have hn := anti _ _ h1.1 h2.1
  have ht : a.2 = b.2 := Nat.le_antisymm (h1.2 hn) (h2.2 hn.symm)
  exact hsame a (hs.subset ha) b (hr.subset hb) ht

/-- non-vacuity: two entries with the same name, tagged 0 and 1, in wire order -/
example : [((⟨[97], 1, 0, 0, 0, 0, 0, [], []⟩ : Entry), 0), (⟨[97], 2, 0, 0, 0, 0, 0, [], []⟩, 1)].Pairwise
    (StableLe (fun a b => a = b ∨ a ≠ b)) := by
  simp [StableLe]

end C15
