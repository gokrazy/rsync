import RsyncModel.Properties.C02
import RsyncModel.Properties.C04
import RsyncModel.Properties.C12
import RsyncModel.Properties.C14
import RsyncModel.Properties.C15
import RsyncModel.Session
import RsyncModel.SendFile
/-! # C01 — a successful sync leaves destination files byte-identical to the source

Composition, per file, of the stages proved separately: the update rule decides whether the file is
requested (C12); if it is, the generator's signature of the old content, the sender's delta against
it, the wire encoding and the receiver's reconstruction and whole-file check commit exactly the
source's bytes (`C02.roundtrip`; `Recv.recvData_enc` for a file without basis), which are put in place
whole (C04); both ends number the files identically (C15) and read the list with the same options
(C14). The end-to-end runs in four arrangements are the `session`, `trace` and `gated` suites. -/
namespace C01
open Recv Delta Atomic
abbrev Bytes := List UInt8

/-- **a new file (nothing at the destination) arrives byte-identical**: the receiver has no basis and
sent the empty checksum header; whatever non-empty chunks the sender cuts the file into, the receiver
commits exactly their concatenation, provided the trailer is the whole-file hash of it -/
theorem new_file_delivered (Hfile : Bytes → Bytes) (chunks : List Bytes) (rest : Bytes)
    (hok : ∀ c ∈ chunks, 0 < c.length ∧ c.length < 2147483648) (h16 : (Hfile chunks.flatten).length = 16) :
    recvData Hfile none (encHead ⟨0, 0, 0, 0⟩ ++ (encToks (chunks.map Spec.ATok.lits) ++ (Hfile chunks.flatten ++ rest)))
      = (.committed chunks.flatten, rest) :=
  recvData_enc Hfile none _ _ _ rest ⟨by decide, by decide, by decide, by decide, by decide⟩
    (recvTokens_literals _ none chunks _ [] hok) h16

/-- **an existing file that the update rule sends again arrives byte-identical, whatever it held
before**: for every old content (identical, unrelated, an edited variant, emptied, truncated,
extended — it is only the delta *basis*) and every new content, the generator's signature, the
sender's search against it, the wire and the receiver commit exactly the source's bytes, and the
destination path then holds exactly them. Hypotheses: the generator's block layout is one the sender
accepts, and no truncated strong-hash collision between a basis block and a different window. -/
theorem changed_file_delivered (Hs Hfile : Bytes → Bytes) (blm1 cs : Nat) (old new rest : Bytes) (p : Path) (id : Nat) (pc : Bytes)
    (before : Path → Option Node)
    (hcs : cs ≤ maxCsLen) (hbl : blm1 + 1 ≤ maxBlockLen)
    (hcount : (honestHead blm1 cs old).count < 2147483648)
    (hfile16 : (Hfile new).length = 16)
    (nocoll : ∀ (i : Nat) (q w : Bytes), (splitBlocks blm1 old)[i]? = some q → q.length = w.length →
      (Hs q).take cs = (Hs w).take cs → q = w) :
    let stream := encHead (honestHead blm1 cs old) ++
      (encToks (senderTokens Hs (honestHead blm1 cs old) (honestSums Hs blm1 old) new) ++ (Hfile new ++ rest))
    (run ⟨before, [], []⟩ (recvFileEvents Hfile (some old) stream id p pc)).dest p = some (.file new) := by
  simp [run_recvFileEvents, C02.roundtrip Hs Hfile blm1 cs old new rest hcs hbl hcount hfile16 nocoll]

/-- the same for a file that did not exist -/
theorem new_file_in_place (Hfile : Bytes → Bytes) (chunks : List Bytes) (rest : Bytes) (p : Path) (id : Nat) (pc : Bytes)
    (before : Path → Option Node)
    (hok : ∀ c ∈ chunks, 0 < c.length ∧ c.length < 2147483648) (h16 : (Hfile chunks.flatten).length = 16) :
    (run ⟨before, [], []⟩ (recvFileEvents Hfile none
      (encHead ⟨0, 0, 0, 0⟩ ++ (encToks (chunks.map Spec.ATok.lits) ++ (Hfile chunks.flatten ++ rest))) id p pc)).dest p
      = some (.file chunks.flatten) := by
  simp [run_recvFileEvents, new_file_delivered Hfile chunks rest hok h16]

/-- **which files are sent**: a regular file is requested unless the update rule the user selected
says the destination is up to date (C12, for every option set and destination state) -/
theorem requested_unless_up_to_date (o : Rx.Opts) (e : Rx.Entry) (d : Option Rx.Node)
    (he : e.kind = .reg) (hok : (Rx.genStep o e d).res = .ok) :
    (Rx.genStep o e d).req ≠ .none ↔ C12.mustRequest o e d :=
  C12.request_iff o e d he hok

/-- both ends mean the same file by an index (C15) and read the list under the same options (C14) -/
theorem same_numbering {le : Flist.Str → Flist.Str → Prop} (anti : ∀ a b, le a b → le b a → a = b)
    (l s r : List Flist.Entry) (hs : s.Perm l) (hr : r.Perm l)
    (hss : s.Pairwise (fun x y => le x.name y.name)) (hrs : r.Pairwise (fun x y => le x.name y.name))
    (hnd : (l.map (·.name)).Nodup) : s = r := C15.same_numbering anti l s r hs hr hss hrs hnd

theorem same_list_options (o : Opts.St)
    (ho : Opts.acc o .DeleteMode = true → Opts.acc o .Recurse = true) :
    ∃ s', Opts.parse (Opts.serverOptions (Opts.acc o)) = .ok s' ∧ C14.flistOpts s' = C14.flistOpts o :=
  C14.flist_opts_agree o ho


/-! ## the whole session: every selected regular file, for every prior state of the destination -/

/-- how the sender transmits a requested file -/
inductive Wire
  | whole (chunks : List Bytes)              -- the receiver has no basis: literal chunks (`sendFile`)
  | delta (old : Bytes) (blm1 cs : Nat)      -- delta against what the path held (`hashSearch`)

def Wire.basis : Wire → Option Bytes
  | .whole _ => none
  | .delta old _ _ => some old

/-- the bytes that arrive for one file: checksum header echo, tokens, whole-file hash -/
def Wire.stream (Hs Hfile : Bytes → Bytes) (new : Bytes) : Wire → Bytes
  | .whole chunks => encHead ⟨0, 0, 0, 0⟩ ++ (encToks (chunks.map Spec.ATok.lits) ++ (Hfile chunks.flatten ++ []))
  | .delta old blm1 cs => encHead (honestHead blm1 cs old) ++
      (encToks (senderTokens Hs (honestHead blm1 cs old) (honestSums Hs blm1 old) new) ++ (Hfile new ++ []))

/-- what is assumed of a transmission: the literal chunks are the file, cut anywhere; the generator's
block layout is one the sender accepts; the whole-file hash has 16 bytes; no truncated strong-hash
collision between a block of the old content and a different window -/
def Wire.Ok (Hs Hfile : Bytes → Bytes) (new : Bytes) : Wire → Prop
  | .whole chunks => chunks.flatten = new ∧ (∀ c ∈ chunks, 0 < c.length ∧ c.length < 2147483648) ∧ (Hfile new).length = 16
  | .delta old blm1 cs => cs ≤ maxCsLen ∧ blm1 + 1 ≤ maxBlockLen ∧ (honestHead blm1 cs old).count < 2147483648 ∧
      (Hfile new).length = 16 ∧
      (∀ (i : Nat) (q w : Bytes), (splitBlocks blm1 old)[i]? = some q → q.length = w.length →
        (Hs q).take cs = (Hs w).take cs → q = w)

theorem wire_commits (Hs Hfile : Bytes → Bytes) (new : Bytes) (w : Wire) (h : w.Ok Hs Hfile new) :
    (recvData Hfile w.basis (w.stream Hs Hfile new)).1 = .committed new := by
  cases w with
  | whole chunks =>
    obtain ⟨hf, hc, h16⟩ := h
    subst hf
    simp only [Wire.basis, Wire.stream]
    rw [new_file_delivered Hfile chunks [] hc h16]
  | delta old blm1 cs =>
    obtain ⟨hcs, hbl, hcount, h16, nocoll⟩ := h
    simp only [Wire.basis, Wire.stream]
    rw [C02.roundtrip Hs Hfile blm1 cs old new [] hcs hbl hcount h16 nocoll]

/-- a regular file of the source as the session sees it: destination path, content, its file-list
entry, what the generator finds at the destination, how it travels -/
structure Src where
  p : Path
  new : Bytes
  e : Rx.Entry
  d : Option Rx.Node
  id : Nat
  wire : Wire

/-- the generator's decision (C12) -/
def requested (o : Rx.Opts) (f : Src) : Bool := (Rx.genStep o f.e f.d).req != .none

def jobsOf (Hs Hfile : Bytes → Bytes) (o : Rx.Opts) (fs : List Src) : List Session.Job :=
  (fs.filter (requested o)).map fun f => ⟨f.p, f.id, f.wire.basis, f.wire.stream Hs Hfile f.new, []⟩

/-- **A successful sync leaves every selected regular file byte-identical to the source, unless the
update rule says it is up to date** — for any number of files, every prior state of the destination
(`before` is arbitrary; the old content of a path is only the delta basis), every option set: after
all events of the session, each file's path holds exactly the source's bytes, or the user-selected
update rule (C12's `mustRequest`) does not ask for it and the path is exactly as it was.
Hypotheses: distinct destination paths; the generator step does not fail; and for the files that
are requested, `Wire.Ok` (block layout accepted, 16-byte whole-file hash, no strong-hash collision). -/
theorem sync_correct (Hs Hfile : Bytes → Bytes) (o : Rx.Opts) (fs : List Src) (before : Path → Option Node)
    (hnd : (fs.map (·.p)).Nodup) (hreg : ∀ f ∈ fs, f.e.kind = .reg)
    (hok : ∀ f ∈ fs, (Rx.genStep o f.e f.d).res = .ok)
    (hwire : ∀ f ∈ fs, requested o f = true → f.wire.Ok Hs Hfile f.new) :
    ∀ f ∈ fs,
      (run ⟨before, [], []⟩ (Session.sessionEvents Hfile (jobsOf Hs Hfile o fs))).dest f.p = some (.file f.new) ∨
      (¬ C12.mustRequest o f.e f.d ∧
        (run ⟨before, [], []⟩ (Session.sessionEvents Hfile (jobsOf Hs Hfile o fs))).dest f.p = before f.p) := by
  intro f hf
  have hpaths : ((jobsOf Hs Hfile o fs).map (·.p)) = (fs.filter (requested o)).map (·.p) := by
    simp [jobsOf, List.map_map, Function.comp_def]
  have hndj : ((jobsOf Hs Hfile o fs).map (·.p)).Nodup := by
    rw [hpaths]
    exact List.Nodup.sublist (List.Sublist.map _ List.filter_sublist) hnd
  by_cases hr : requested o f = true
  · left
    have hmem : (⟨f.p, f.id, f.wire.basis, f.wire.stream Hs Hfile f.new, []⟩ : Session.Job) ∈ jobsOf Hs Hfile o fs := by
      simp only [jobsOf, List.mem_map, List.mem_filter]
      exact ⟨f, ⟨hf, hr⟩, rfl⟩
    rw [Session.session_dest Hfile _ _ hndj _ hmem]
    simp only [wire_commits Hs Hfile f.new f.wire (hwire f hf hr)]
  · right
    have hreq : (Rx.genStep o f.e f.d).req = .none := by
      simp only [requested, bne_iff_ne, ne_eq] at hr
      exact Decidable.of_not_not hr
    refine ⟨?_, ?_⟩
    · intro hm
      have := (C12.request_iff o f.e f.d (hreg f hf) (hok f hf)).mpr hm
      exact this hreq
    · apply Session.session_frame
      intro j hj heq
      simp only [jobsOf, List.mem_map, List.mem_filter] at hj
      obtain ⟨g, ⟨hg, hgr⟩, rfl⟩ := hj
      -- same path, distinct paths: g = f, but g is requested and f is not
      exact hr (List.inj_on_of_nodup_map hnd hg hf heq.symm ▸ hgr)

/-- non-vacuity: a list of two files with distinct paths -/
example : ∃ fs : List Src, fs.length = 2 ∧ (fs.map (·.p)).Nodup := ⟨[⟨[97], [1,2,3], ⟨.reg, 0o644, 3, 5, 0, 0, [], 0, []⟩, none, 1, .whole [[1,2,3]]⟩,
  ⟨[98], [9], ⟨.reg, 0o644, 1, 5, 0, 0, [], 0, []⟩, none, 2, .delta [7,7] 699 16⟩], rfl, by decide⟩

/-- non-vacuity of the transmission hypothesis: a file cut into two literal chunks -/
example : (Wire.whole [[1, 2], [3]]).Ok (fun b => b) (fun _ => List.replicate 16 0) [1, 2, 3] := by
  refine ⟨rfl, ?_, rfl⟩
  intro c hc
  simp at hc
  rcases hc with rfl | rfl <;> simp

/-! ### Tie to the source: the whole-file path -/

/-- **`sendFile`'s read loop sends the whole file, whatever the reader's reads look like** (translated from
/repo on every run; `f.Read` delivers between 1 and `min(len buf, rest)` bytes per call — an arbitrary schedule of
short reads is a parameter — and reports the end of the file either together with the last bytes (`eager`, as
`io.Reader` allows and an `fs.FS` module may do) or by the next call): literal tokens of 1 … 256 KiB whose data
concatenate to exactly the file, each preceded by its length, then the end-of-data token; at most `len(file)+1`
passes. This is the hypothesis `Wire.whole cs` with `cs.flatten = file` of `sync_correct`, discharged for the source's
own loop. Before the repair of D50 the statement was false for `eager = true`: the bytes that arrived with `io.EOF`
were dropped and the transfer failed with "file corruption". -/
theorem source_whole_file_path (file : List UInt8) (sched : List Nat) (eager : Bool) :
    ∃ chunks, (∀ c ∈ chunks, 0 < c.length ∧ c.length ≤ 262144) ∧ chunks.flatten = file ∧
      Gen.Pure.sendFileLoop file sched eager [] = .ok (SendFile.frames chunks ++ [Go.Out.i32 0], []) :=
  ⟨_, SendFile.readChunks_bounds file sched, SendFile.readChunks_flatten file sched, SendFile.sendFileLoop_eq file sched eager []⟩

/-- **and the receiver's own loop rebuilds exactly that file from those bytes** (no basis file, any validated
header, anything may follow on the wire) -/
theorem source_whole_file_end_to_end (file : List UInt8) (sched : List Nat) (eager : Bool) (h : PureTie.Head32) (hok : h.ok) (cs : Nat)
    (tail : List UInt8) :
    ∃ out, Gen.Pure.sendFileLoop file sched eager [] = .ok (out, []) ∧
      Gen.Pure.recvLoop (SendFile.wireOf out ++ tail) [] false h.count h.bl h.rem [] = .ok (file, tail) := by
  refine ⟨_, SendFile.sendFileLoop_eq file sched eager [], ?_⟩
  rw [RecvTie.recvLoop_tied h hok cs, List.nil_append, SendFile.wireOf_frames]
  simp only [Bool.false_eq_true, if_false]
  rw [recvTokens_literals _ none _ tail [] fun c hc => ⟨(SendFile.readChunks_bounds file sched c hc).1,
    by have := (SendFile.readChunks_bounds file sched c hc).2; omega⟩, SendFile.readChunks_flatten]
  rfl

/-- non-vacuity: a five-byte file read as 2 + 1 + 2 bytes, the end reported by a further call or with the last bytes -/
example : Gen.Pure.sendFileLoop [1, 2, 3, 4, 5] [2, 1] false [] =
    .ok ([.i32 2, .bytes [1, 2], .i32 1, .bytes [3], .i32 2, .bytes [4, 5], .i32 0], []) := by
  rw [SendFile.sendFileLoop_eq]; decide +kernel

example : Gen.Pure.sendFileLoop [1, 2, 3, 4, 5] [2, 1] true [] =
    .ok ([.i32 2, .bytes [1, 2], .i32 1, .bytes [3], .i32 2, .bytes [4, 5], .i32 0], []) := by
  rw [SendFile.sendFileLoop_eq]; decide +kernel

end C01
