import RsyncModel.GeneratorThm
/-! # C11 — requested metadata is reproduced at the destination -/
namespace C11
open Rx

/-- **Regular files** (after the data arrived and was committed): size/content as sent; `-p` ⇒ the
entry's permission bits; without `-p` an existing regular file keeps its own bits; `-t` ⇒ mtime to
the second; as root `-o`/`-g` ⇒ owner and group. -/
theorem regular_file_metadata (o : Opts) (e : Entry) (d : Option Node) (size : Int) (sum : Bytes)
    (hd : o.dryRun = false) :
    ∃ n, recvFinish o e d size sum = some n ∧ n.kind = .reg ∧ n.size = size ∧ n.sum = sum ∧
      (o.perms = true → n.perm = e.perm) ∧
      (o.perms = false → ∀ m, d = some m → m.kind = .reg → n.perm = m.perm) ∧
      (d = none → n.perm = e.perm) ∧
      (o.times = true → n.mtime = e.mtime) ∧
      (o.uid = true → o.amRoot = true → n.uid = e.uid) ∧
      (o.gid = true → o.amRoot = true → n.gid = e.gid) := by
  simp only [recvFinish, setPerms_eq, hd, Bool.false_eq_true, if_false]
  refine ⟨_, rfl, rfl, rfl, rfl, ?_, ?_, ?_, ?_, ?_, ?_⟩
  · intro hp; cases d <;> simp [hp]
  · intro hp m hm hk; simp [hm, hk, hp]
  · intro hn; simp [hn]
  · intro ht; simp [ht]
  · intro hu hr; simp [hu, hr]
  · intro hg hr; simp [hg, hr]

/-- **An up-to-date regular file** only has its metadata adjusted, under the same rules (in
particular: without `-p` its permission bits are left alone). -/
theorem uptodate_file_metadata (o : Opts) (e : Entry) (m : Node) (he : e.kind = .reg) (hk : m.kind = .reg)
    (hd : o.dryRun = false) (hskip : skipFile o e m = true) :
    ∃ n, (genStep o e (some m)).node = some n ∧ n.kind = .reg ∧ n.size = m.size ∧
      (o.perms = true → n.perm = e.perm) ∧ (o.perms = false → n.perm = m.perm) ∧
      (o.times = true → n.mtime = e.mtime) := by
  have hk' : (m.kind != .reg) = false := by simp [hk]
  simp only [genStep_reg _ he, hk', Bool.false_eq_true, if_false, hskip, if_true, setPerms_eq, hd]
  refine ⟨_, rfl, hk, rfl, ?_, ?_, ?_⟩ <;> intro h <;> simp [h]

/-- **Directories**: created (or kept) as directories; lacking owner-write they are made writable
while the transfer runs (`retouch`), and `touchUp` at the end gives exactly the source's mode. -/
theorem directory_metadata (o : Opts) (e : Entry) (d : Option Node) (he : e.kind = .dir) (hd : o.dryRun = false) :
    ∃ n, (genStep o e d).node = some n ∧ (genStep o e d).res = .ok ∧ n.kind = .dir ∧
      (n.perm = if e.perm &&& wbit = 0 then e.perm ||| wbit else e.perm) ∧
      ((genStep o e d).retouch = true ↔ e.perm &&& wbit = 0) ∧
      (touchUp o e n).perm = e.perm ∧ (touchUp o e n).kind = .dir ∧
      (o.times = true → n.mtime = e.mtime) ∧
      (o.uid = true → o.amRoot = true → n.uid = e.uid) ∧ (o.gid = true → o.amRoot = true → n.gid = e.gid) := by
  have hbk := dirBase_kind o e d
  have hp : ∀ (p : Nat) (n : Node), (setPerms o e .dir p n).perm = p ∧ (setPerms o e .dir p n).kind = n.kind := by
    intro p n; simp [setPerms_eq, hd]
  rw [genStep_dir d he]
  simp only [hd, Bool.false_eq_true, if_false]
  refine ⟨_, rfl, trivial, (hp _ _).2.trans hbk, ?_, by simp, ?_, ?_, ?_, ?_, ?_⟩
  · rw [(hp _ _).1]; by_cases hw : e.perm &&& wbit = 0 <;> simp [hw]
  · simp only [touchUp, he, hd, bne_self_eq_false, Bool.false_eq_true, if_false]
    split
    · rw [(hp _ _).1]; simp_all
    · exact (hp _ _).1
  · simp only [touchUp, he, hd, bne_self_eq_false, Bool.false_eq_true, if_false]
    split
    · exact (hp _ _).2.trans hbk
    · exact (hp _ _).2.trans ((hp _ _).2.trans hbk)
  · intro ht; simp [setPerms_eq, hd, ht]
  · intro hu hr; simp [setPerms_eq, hd, hu, hr]
  · intro hg hr; simp [setPerms_eq, hd, hg, hr]

/-- **Symlinks** (`-l`): the destination is a symlink with exactly the entry's target (any bytes),
unless a directory is in the way (error). -/
theorem symlink_metadata (o : Opts) (e : Entry) (d : Option Node) (he : e.kind = .lnk) (hl : o.links = true)
    (hd : o.dryRun = false) (hnd : ∀ m, d = some m → m.kind ≠ .dir) :
    ∃ n, (genStep o e d).node = some n ∧ (genStep o e d).res = .ok ∧ n.kind = .lnk ∧ n.target = e.target ∧
      (o.uid = true → o.amRoot = true → n.uid = e.uid) ∧ (o.gid = true → o.amRoot = true → n.gid = e.gid) := by
  have hstep : ∃ base : Node, base.kind = .lnk ∧ base.target = e.target ∧
      genStep o e d = ⟨some (setPerms o e .lnk e.perm base), .none, false, .ok⟩ := by
    rw [genStep_lnk d he hl]
    simp only [hd, Bool.false_eq_true, if_false]
    cases d with
    | none => exact ⟨_, rfl, rfl, rfl⟩
    | some m =>
      simp only
      split
      · next hsame =>
        simp only [Bool.and_eq_true, beq_iff_eq] at hsame
        exact ⟨m, hsame.1, hsame.2, rfl⟩
      · have hnd' : (m.kind == Kind.dir) = false := by simpa using hnd m rfl
        simp only [hnd', Bool.false_eq_true, if_false]
        exact ⟨_, rfl, rfl, rfl⟩
  obtain ⟨base, hbk, hbt, hs⟩ := hstep
  simp only [hs, setPerms_eq, hd, Bool.false_eq_true, if_false]
  refine ⟨_, rfl, trivial, hbk, hbt, ?_, ?_⟩
  · intro hu hr; simp [hu, hr]
  · intro hg hr; simp [hg, hr]

/-- **Devices and special files** (`--devices` / `--specials`, `-D` = both): a missing entry, or an
existing one of the same type (recreated when its device number differs), ends with the entry's
type, for devices its device number, and — like every other entry — its permission bits, its mtime
under `-t` and, as root, its owner and group. -/
theorem device_metadata (o : Opts) (e : Entry) (d : Option Node) (hd : o.dryRun = false)
    (hk : (o.devices = true ∧ isDevKind e.kind = true) ∨ (o.specials = true ∧ isSpecialKind e.kind = true))
    (hdst : ∀ m, d = some m → m.kind = e.kind) :
    ∃ n, (genStep o e d).node = some n ∧ (genStep o e d).res = .ok ∧ n.kind = e.kind ∧
      (isDevKind e.kind = true → n.rdev = e.rdev) ∧ n.perm = e.perm ∧
      (o.times = true → n.mtime = e.mtime) ∧
      (o.uid = true → o.amRoot = true → n.uid = e.uid) ∧ (o.gid = true → o.amRoot = true → n.gid = e.gid) := by
  have hcond : wantsDev o e = true := by
    rcases hk with ⟨a, b⟩ | ⟨a, b⟩ <;> simp [wantsDev, a, b]
  have hnlk : (e.kind != .lnk) = true := by simpa using (wantsDev_kind hcond).2
  have hstep : ∃ base : Node, base.kind = e.kind ∧ (isDevKind e.kind = true → base.rdev = e.rdev) ∧
      genStep o e d = ⟨some (setPerms o e e.kind e.perm base), .none, false, .ok⟩ := by
    rw [genStep_dev d hcond]
    simp only [hd, Bool.false_eq_true, if_false]
    cases d with
    | none => exact ⟨_, rfl, fun h => by simp [devFresh, h], rfl⟩
    | some m =>
      have hm := hdst m rfl
      simp only [deviceExists_of_kind (hk.imp And.right And.right) hm, if_true]
      split
      · next hsame => exact ⟨m, hm, fun hdev => by simpa [hdev] using hsame, rfl⟩
      · exact ⟨_, rfl, fun h => by simp [devFresh, h], rfl⟩
  obtain ⟨base, hbk, hbr, hs⟩ := hstep
  simp only [hs, setPerms_eq, hd, Bool.false_eq_true, if_false, hnlk, Bool.and_true, if_true]
  refine ⟨_, rfl, trivial, hbk, hbr, rfl, ?_, ?_, ?_⟩
  · intro ht; simp [ht]
  · intro hu hr; simp [hu, hr]
  · intro hg hr; simp [hg, hr]

end C11
