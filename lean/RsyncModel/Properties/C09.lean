import RsyncModel.Gen.Pure
import RsyncModel.DeleteThm
/-! # C09 — `--delete` removes exactly the extraneous entries and nothing else

The destination is the flat pre-order listing `fs.WalkDir` visits (Walk.lean); `listed` is the
binary search over the sender's name-sorted list. Protection of entries by the user's exclude rules
(D9) and forwarding of `--delete` to a receiving daemon (D10) were missing in the pinned tree and
are repaired in /repo, see DESIGN.md. -/
namespace C09
open Walk Delete

/-- **Nothing that is in the sender's list is ever removed, and nothing outside the listing**: every
removed root is an entry of the destination that the list does not name. -/
theorem removed_only_unlisted (listed : Path → Bool) (l : List Ent) :
    ∀ p ∈ delWalk listed l, listed p = false ∧ ∃ e ∈ l, e.path = p := delWalk_sound listed l

/-- **Every extraneous entry goes, at any depth and however many there are**: an unlisted entry all
of whose ancestors are listed is removed (with its subtree). -/
theorem extraneous_removed (listed : Path → Bool) (l : List Ent) :
    ∀ e ∈ l, listed e.path = false → (∀ x ∈ l, under x.path e.path = true → listed x.path = true) →
      e.path ∈ delWalk listed l := delWalk_complete listed l

/-- nothing below a removed directory is visited again -/
theorem no_nested_removal (listed : Path → Bool) (l : List Ent) (hpo : PreOrder l) :
    ∀ p ∈ delWalk listed l, ∀ q ∈ delWalk listed l, under q p = false := delWalk_no_nested listed l hpo

/-- **Exactly what survives `--delete`**: in a destination listing that is closed under ancestors, an entry
survives iff it and every directory above it (below the root) is named in the sender's list — at any depth,
however many extraneous entries there are, whatever their types and sort positions. -/
theorem survives_exactly (listed : Path → Bool) (l : List Ent)
    (hne : ∀ e ∈ l, e.path ≠ [])
    (hanc : ∀ e ∈ l, ∀ q, under q e.path = true → q ≠ [] → ∃ e' ∈ l, e'.path = q)
    (e : Ent) (he : e ∈ l) :
    ¬ gone (delWalk listed l) e.path ↔
      ∀ q, (q = e.path ∨ under q e.path = true) → q ≠ [] → listed q = true := by
  constructor
  · intro hs q hq hqne
    cases hlq : listed q
    · exfalso
      obtain ⟨q0, hq0, hq0ne, hq0l, hq0a⟩ := topmost_unlisted listed e.path q.length q (Nat.le_refl _) hq hqne hlq
      have hq0mem : ∃ e0 ∈ l, e0.path = q0 := by
        rcases hq0 with rfl | hu
        · exact ⟨e, he, rfl⟩
        · exact hanc e he q0 hu hq0ne
      obtain ⟨e0, he0, rfl⟩ := hq0mem
      have := delWalk_complete listed l e0 he0 hq0l (fun x hx hu => hq0a x.path hu (hne x hx))
      exact hs ⟨e0.path, this, by rcases hq0 with h | h <;> simp [h]⟩
    · rfl
  · intro hall ⟨r, hr, hrp⟩
    obtain ⟨hrl, e', he', rfl⟩ := delWalk_sound listed l r hr
    have := hall e'.path (by rcases hrp with h | h <;> simp [h]) (hne e' he')
    rw [this] at hrl; cases hrl

/-- **Nothing at all is removed** when the sender reported read errors, in a dry run, or when the
list has no top-level `.` entry. -/
theorem delete_nothing (ioErrors : Nat) (dryRun : Bool) (names : List Str) (tree : List Ent)
    (h : ioErrors > 0 ∨ dryRun = true ∨ names.contains [46] = false) :
    deleteFiles ioErrors dryRun names tree = [] ∧ ∀ rules, (deleteFilesV ioErrors dryRun names rules tree).1 = [] := by
  unfold deleteFiles deleteFilesV
  rcases h with h | h | h
  · simp [h]
  · simp only [h, if_true]
    refine ⟨by split <;> (try split) <;> rfl, fun _ => by split <;> (try split) <;> rfl⟩
  · simp only [h, Bool.not_false, if_true]
    refine ⟨by split <;> rfl, fun _ => by split <;> rfl⟩

/-- **What the walk removes is never listed and never protected — as far as the removal *roots* go.** The full
statement the property text suggests ("nothing the rules protect disappears") is **false of this code** (finding D38,
see the witness below): a removal root is removed with its whole subtree (`RemoveAll`), whatever the rules say about
entries inside it. Proved here: every *root* of a removal is unlisted and unprotected; without rules the protected walk
is the plain one. -/
theorem protected_roots_never_removed_partial (listed : Path → Bool) (protect : Path → Bool → Bool) (l : List Ent) :
    ∀ p ∈ delWalkP listed protect l, listed p = false ∧ ∃ e ∈ l, e.path = p ∧ protect p e.isDir = false := by
  induction l using delWalkP.induct listed protect with
  | case1 => simp [delWalkP]
  | case2 e rest hl ih =>
    rw [delWalkP, if_pos hl]; intro p hp
    obtain ⟨a, e', he', h⟩ := ih p hp
    exact ⟨a, e', List.mem_cons_of_mem _ he', h⟩
  | case3 e rest hl hp hd ih =>
    rw [delWalkP, if_neg hl, if_pos hp, if_pos hd]; intro p hpm
    obtain ⟨a, e', he', h⟩ := ih p hpm
    exact ⟨a, e', List.mem_cons_of_mem _ (List.dropWhile_subset _ he'), h⟩
  | case4 e rest hl hp hd ih =>
    rw [delWalkP, if_neg hl, if_pos hp, if_neg hd]; intro p hpm
    obtain ⟨a, e', he', h⟩ := ih p hpm
    exact ⟨a, e', List.mem_cons_of_mem _ he', h⟩
  | case5 e rest hl hp ih =>
    rw [delWalkP, if_neg hl, if_neg hp]; intro p hpm
    rcases List.mem_cons.mp hpm with rfl | hpm
    · exact ⟨by simpa using hl, e, List.mem_cons_self, rfl, by simpa using hp⟩
    · obtain ⟨a, e', he', h⟩ := ih p hpm
      exact ⟨a, e', List.mem_cons_of_mem _ (List.dropWhile_subset _ he'), h⟩

/-- **D38, kernel-checked witness**: a destination with the extraneous directory `o` holding `o/k`, rules that protect
`k`: the walk removes `o` (hence `o/k` with it) although `k` is protected. The same tree on the implementation is the
`protected-below-extraneous` fixture of the session suite (a known finding). -/
theorem protected_entry_below_removed_root :
    let o : Path := [[111]]
    let k : Path := [[111], [107]]
    let protect : Path → Bool → Bool := fun p _ => p.getLast? == some [107]
    o ∈ delWalkP (fun _ => false) protect [⟨o, true⟩, ⟨k, false⟩] ∧ under o k = true ∧ protect k false = true := by
  intro o k protect
  refine ⟨?_, by decide, by decide⟩
  rw [delWalkP]
  simp [protect, o]

theorem no_rules_plain_walk (listed : Path → Bool) (l : List Ent) :
    delWalkP listed (fun _ _ => false) l = delWalk listed l := by
  induction l using delWalk.induct listed with
  | case1 => simp [delWalkP, delWalk]
  | case2 e rest hl ih => rw [delWalkP, delWalk, if_pos hl, if_pos hl]; exact ih
  | case3 e rest hl ih => rw [delWalkP, delWalk, if_neg hl, if_neg hl]; simp [ih]

/-- the walk the code really performs (with `io/fs.ValidPath`'s UTF-8 restriction on directories it
descends into) is the ideal walk whenever every directory name is valid UTF-8 -/
theorem real_walk_is_ideal (listed : Path → Bool) (l : List Ent)
    (h : ∀ e ∈ l, e.isDir = true → Utf8.valid (joined e.path) = true) :
    delWalkV listed l = (delWalk listed l, false) := by
  induction l using delWalk.induct listed with
  | case1 => simp [delWalkV, delWalk]
  | case2 e rest hl ih =>
    rw [delWalkV, delWalk, if_pos hl, if_pos hl]
    have hv : (e.isDir && !Utf8.valid (joined e.path)) = false := by
      cases hd : e.isDir
      · simp
      · simp [h e (by simp) hd]
    simp only [hv, Bool.false_eq_true, if_false]
    exact ih (fun x hx => h x (by simp [hx]))
  | case3 e rest hl ih =>
    rw [delWalkV, delWalk, if_neg hl, if_neg hl]
    simp only
    rw [ih (fun x hx => h x (by simp [List.dropWhile_subset _ hx]))]

/-- **`findInFileList` is a correct bisection**: for a predicate monotone over the index range (which
`names[i] ≥ name` is on a name-sorted list) `sort.Search` returns the boundary. -/
theorem bisection_correct (f : Nat → Bool) (n : Nat)
    (hmono : ∀ i j, 0 ≤ i → i ≤ j → j < n → f i = true → f j = true) :
    search f 0 n ≤ n ∧ (∀ i, i < search f 0 n → f i = false) ∧ (∀ i, search f 0 n ≤ i → i < n → f i = true) := by
  obtain ⟨_, b, c, d⟩ := search_spec f 0 n (Nat.zero_le n) hmono
  exact ⟨b, fun i hi => c i (by omega) hi, d⟩

/-- D8 (fixed in /repo): the pinned tree returned `fs.SkipDir` for a removed *file*, which skipped its
remaining siblings — kernel-checked on two extraneous files. -/
theorem D8_counterexample :
    delWalk (fun _ => false) twoFiles = [[[97]], [[98]]] ∧ delWalkD8 (fun _ => false) twoFiles = [[[97]]] := by
  constructor <;> simp [twoFiles, delWalk, delWalkD8, under]

/-- D26 (known finding): a kept directory whose name is not valid UTF-8 aborts the real walk before the
extraneous entry after it is reached. -/
theorem D26_counterexample :
    delWalkV (fun p => p == [[0xff]]) [⟨[[0xff]], true⟩, ⟨[[0xff], [97]], false⟩, ⟨[[122]], false⟩] = ([], true) ∧
    delWalk (fun p => p == [[0xff]]) [⟨[[0xff]], true⟩, ⟨[[0xff], [97]], false⟩, ⟨[[122]], false⟩] = [[[0xff], [97]], [[122]]] := by
  constructor
  · simp [delWalkV, joined, Utf8.valid]
  · simp [delWalk, under]


/-- the guard at the top of `deleteFiles`, translated from /repo on every run: deletion is skipped
exactly when the I/O error flag the sender reported is positive — *any* positive value, not one bit
of it (with `delete_nothing`: then nothing is removed) -/
theorem source_io_error_guard (v : Int32) : Gen.Pure.deleteGuard v false = decide (0 < v.toInt) := by
  simp [Gen.Pure.deleteGuard, Int32.lt_iff_toInt_lt]

end C09
