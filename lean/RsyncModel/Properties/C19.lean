import RsyncModel.Acl
/-! # C19 — module access control follows first-match allow/deny -/
namespace C19
open Acl

/-- the rule is well formed and its network contains the address (or it says `all`) -/
def applies (r : Rule) (ip : Bytes) : Prop := step r ip = .stop .allow ∨ step r ip = .stop .denied
/-- evaluation of this rule ends with "invalid acl" -/
def malformedAt (r : Rule) (ip : Bytes) : Prop := step r ip = .stop .malformed

/-- the specification, stated without reference to the loop: the first rule that is either malformed
or applies to the address -/
def firstDecisive (rules : List Rule) (ip : Bytes) : Option Rule :=
  rules.find? (fun r => step r ip != .next)

/-- **First match decides**: access is granted exactly when no rule is decisive (none applies and
none is malformed before one applies), or the first decisive rule is a well-formed `allow` whose
network contains the address. -/
theorem acl_first_match (rules : List Rule) (ip : Bytes) :
    evalRules rules ip = .allow ↔
      (firstDecisive rules ip = none ∨ ∃ r, firstDecisive rules ip = some r ∧ step r ip = .stop .allow) := by
  induction rules with
  | nil => simp [evalRules, firstDecisive]
  | cons r rs ih =>
    unfold evalRules firstDecisive
    cases h : step r ip with
    | next => simpa [h, firstDecisive] using ih
    | stop v => simp [h]

/-- a `deny` (or a malformed rule) reached first yields an error, never access -/
theorem acl_deny_or_malformed_first (rules : List Rule) (ip : Bytes) (r : Rule)
    (h : firstDecisive rules ip = some r) (hr : step r ip ≠ .stop .allow) :
    evalRules rules ip ≠ .allow := by
  intro hc
  rcases (acl_first_match rules ip).mp hc with h0 | ⟨r', h1, h2⟩
  · rw [h0] at h; cases h
  · rw [h1] at h; cases h; exact hr h2

/-- rules after the first decisive one are irrelevant -/
theorem acl_suffix_irrelevant (pre : List Rule) (r : Rule) (post post' : List Rule) (ip : Bytes)
    (hpre : ∀ q ∈ pre, step q ip = .next) (hr : step r ip ≠ .next) :
    evalRules (pre ++ r :: post) ip = evalRules (pre ++ r :: post') ip := by
  induction pre with
  | nil => simp only [List.nil_append, evalRules]; cases h : step r ip <;> simp_all
  | cons q qs ih =>
    have hq := hpre q (by simp)
    simp only [List.cons_append, evalRules, hq]
    exact ih (fun x hx => hpre x (by simp [hx]))

/-- no rule at all: everybody is let in, even if the peer address cannot be parsed (checkACL:141) -/
theorem acl_empty (addr : Option Bytes) : checkACL [] addr = .allow := rfl

/-- with rules configured, an unparsable peer address is refused -/
theorem acl_bad_addr (r : Rule) (rs : List Rule) : checkACL (r :: rs) none = .badAddr := rfl

/-- an IPv4-mapped IPv6 peer address is compared as the IPv4 address it embeds -/
theorem mapped_is_v4 (nip mask : Bytes) (a b c d : UInt8) :
    contains nip mask (v4InV6Prefix ++ [a, b, c, d]) = contains nip mask [a, b, c, d] := by
  simp [contains, to4, v4InV6Prefix]

/-- an IPv4 network (4-byte number and mask) never contains a non-mapped IPv6 address, whatever the mask -/
theorem v4net_excludes_v6 (nip mask ip : Bytes) (hn : nip.length = 4) (hm : mask.length = 4)
    (hip : ip.length = 16) (hnot : ip.take 12 ≠ v4InV6Prefix) : contains nip mask ip = false := by
  simp [contains, networkNumberAndMask, to4, hn, hm, hip, hnot]

/-- non-vacuity / worked example: `deny 10.0.0.0/8` first, then `allow all` / a malformed rule -/
def deny10 : Rule := ⟨sDeny ++ [32, 49, 48, 46, 48, 46, 48, 46, 48, 47, 56], .net [10,0,0,0] [255,0,0,0]⟩
def allow10 : Rule := ⟨sAllow ++ [32, 49, 48, 46, 48, 46, 48, 46, 48, 47, 56], .net [10,0,0,0] [255,0,0,0]⟩
def allowAll : Rule := ⟨sAllow ++ [32] ++ sAll, .bad⟩
def bogus : Rule := ⟨[98, 111, 103, 117, 115], .bad⟩
example :
    evalRules [deny10, allowAll] [10,1,2,3] = .denied ∧
    evalRules [deny10, allowAll] [11,1,2,3] = .allow ∧
    evalRules [deny10, bogus] [11,1,2,3] = .malformed ∧
    evalRules [allow10, bogus] (v4InV6Prefix ++ [10,9,9,9]) = .allow := by decide

end C19
