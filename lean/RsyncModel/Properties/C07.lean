import RsyncModel.Daemon
import RsyncModel.FsSitesSpec
/-! # C07 — read-only modules are never modified -/
namespace C07
open Daemon Opts

theorem find_name (mods : List Module) (req : Str) (m : Module) (h : mods.find? (·.name == req) = some m) : m ∈ mods :=
  List.mem_of_find?_eq_some h

def RecvOnly (m : Module) (o : Outcome) : Prop := isReceive o = true → moduleOf o = some m ∧ m.writable = true

theorem role_recvOnly (m : Module) (s : St) : RecvOnly m (role m s) := by
  unfold role
  split
  · rename_i d p ps _
    by_cases h1 : (d != ['.']) = true
    · rw [if_pos h1]; intro h; cases h
    rw [if_neg h1]
    dsimp only
    by_cases h2 : acc s .Sender = true
    · rw [if_pos h2]; intro h; cases h
    rw [if_neg h2]
    by_cases h3 : (!m.writable) = true
    · rw [if_pos h3]; intro h; cases h
    rw [if_neg h3]
    have hw : m.writable = true := by simpa using h3
    split
    · split <;> exact fun _ => ⟨rfl, hw⟩
    · exact fun _ => ⟨rfl, hw⟩
  · intro h; cases h

theorem afterOk_recvOnly (m : Module) (argLines : List Str) : RecvOnly m (afterOk m argLines) := by
  unfold afterOk
  split
  · intro h; cases h
  · intro h; cases h
  · intro h; cases h
  · exact role_recvOnly m _

/-- the handler enters receive mode only for a configured module that the peer named, that its ACL admits, and that is
writable -/
theorem handle_recvOnly (mods : List Module) (greeting moduleLine : Str) (argLines : List Str)
    (h : isReceive (handle mods greeting moduleLine argLines) = true) :
    ∃ m ∈ mods, m.name = trimSpace moduleLine ∧ m.aclAllows = true ∧
      moduleOf (handle mods greeting moduleLine argLines) = some m ∧ m.writable = true := by
  unfold handle at h ⊢
  by_cases h1 : (!hasPrefix greeting "@RSYNCD: ".toList) = true
  · rw [if_pos h1] at h; cases h
  rw [if_neg h1] at h ⊢
  dsimp only at h ⊢
  by_cases h2 : ((trimSpace moduleLine).isEmpty || trimSpace moduleLine == "#list".toList) = true
  · rw [if_pos h2] at h; cases h
  rw [if_neg h2] at h ⊢
  cases hf : mods.find? (·.name == trimSpace moduleLine) with
  | none => rw [hf] at h; cases h
  | some m =>
    rw [hf] at h
    dsimp only at h ⊢
    by_cases h3 : (!m.aclAllows) = true
    · rw [if_pos h3] at h; cases h
    rw [if_neg h3] at h ⊢
    exact ⟨m, find_name mods _ m hf, by simpa using List.find?_some hf, by simpa using h3, afterOk_recvOnly m argLines h⟩

theorem events_of_not_receive (o : Outcome) (h : isReceive o = false) : events o = [] := by
  cases o <;> first | rfl | cases h

/-- receive mode is entered only for a writable module -/
theorem receive_implies_writable (mods : List Module) (greeting moduleLine : Str) (argLines : List Str) (m : Module)
    (hm : moduleOf (handle mods greeting moduleLine argLines) = some m)
    (hr : isReceive (handle mods greeting moduleLine argLines) = true) : m.writable = true := by
  obtain ⟨m', _, _, _, hm', hw'⟩ := handle_recvOnly mods greeting moduleLine argLines hr
  rw [hm] at hm'; cases hm'; exact hw'

/-- **every request that selects a module which is not writable leaves the handler without a single
file-system event**, whatever greeting, module line and argument lines (flags, paths, `--delete`,
`-n`, subdirectories) the client sends: the handler only ever touches the module of a `receiver`
outcome, and that module is writable -/
theorem readonly_untouched (mods : List Module) (greeting moduleLine : Str) (argLines : List Str) :
    ∀ m, moduleOf (handle mods greeting moduleLine argLines) = some m → m.writable = false →
      events (handle mods greeting moduleLine argLines) = [] ∧ isReceive (handle mods greeting moduleLine argLines) = false := by
  intro m hm hw
  have : isReceive (handle mods greeting moduleLine argLines) = false :=
    Bool.eq_false_iff.mpr fun hr => by
      have := receive_implies_writable mods greeting moduleLine argLines m hm hr
      rw [hw] at this
      cases this
  exact ⟨events_of_not_receive _ this, this⟩

/-- a module served from an fs.FS is never writable (`validateModule`) -/
theorem fs_modules_not_writable (hasName hasPath : Bool) (m : Module) (h : validModule hasName hasPath m = true) (hfs : m.isFS = true) :
    m.writable = false := by
  simp [validModule, hfs] at h
  exact h.2.1

/-- the regenerated call-site table of the daemon package: every file-system call is dominated by the writability
check (or sits under `if mod.Writable`), the four read-only calls of `subdirInModule` and `reopenByPath` apart
(`daemonGuarded`); a raw path is the configured module path, or in those two functions the resolved subdirectory
(`daemonRawOnlyModuleRoot`); and the arguments of the raw-path calls are those names literally (`rawArgsPinned`) -/
theorem sites_guarded : FsSitesSpec.daemonGuarded = true ∧ FsSitesSpec.daemonRawOnlyModuleRoot = true ∧ FsSitesSpec.rawArgsPinned = true :=
  ⟨FsSitesSpec.daemon_sites_guarded.1, FsSitesSpec.daemon_sites_guarded.2, FsSitesSpec.raw_args_pinned⟩

/-- non-vacuity: an upload request to a read-only module is classified `readOnly` with no events -/
example : (match handle [⟨"ro".toList, false, false, true⟩] "@RSYNCD: 27".toList "ro".toList
    ["--server".toList, "-logDtpr".toList, "--delete".toList, ".".toList, "ro/new/sub".toList, []] with
  | .readOnly _ => true | _ => false) = true := by decide +kernel

example : (match handle [⟨"rw".toList, true, false, true⟩] "@RSYNCD: 27".toList "rw".toList
    ["--server".toList, "-logDtpr".toList, ".".toList, "rw/new/sub".toList, []] with
  | .receiver _ (some s) => s == "new/sub".toList | _ => false) = true := by decide +kernel

end C07
