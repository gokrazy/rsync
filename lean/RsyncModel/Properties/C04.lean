import RsyncModel.AtomicThm
import RsyncModel.Properties.C03
import RsyncModel.FsSitesSpec
/-! # C04 — destination paths change atomically: old or new content in full at every instant -/
namespace C04
open Atomic

theorem step_allowed (old : Path → Option Node) (s : St) (e : Ev) (p : Path) (h : Allowed old s p) :
    Allowed old (step s e) p := by
  cases e with
  | createTemp id => exact h
  | write id chunk => exact h
  | removeTemp id => exact h
  | unlink q => exact h.set (.inl rfl)
  | symlinkReplace q t => exact h.set (.inr (.inl ⟨t, rfl⟩))
  | mkdir q => exact h.set (.inr (.inr (.inl rfl)))
  | mknod q => exact h.set (.inr (.inr (.inr rfl)))
  | rename id q =>
    simp only [step]
    cases tempContent s id with
    | none => exact h
    | some c =>
      by_cases hq : p = q
      · exact .inr (.inr (.inl ⟨c, by simp [hq], by simp [hq]⟩))
      · exact h.mono (by simp [hq]) (fun x hx => List.mem_cons_of_mem _ hx)

/-- **at every instant** — after every prefix of every event sequence, i.e. whatever the byte
stream, wherever it is cut, however generator and receiver events interleave — every listed path holds
its previous state, nothing, or something that was put there whole. There is no state in which a path
holds part of a file: the event language has no write to a path, only to temporaries. -/
theorem every_prefix_allowed (old : Path → Option Node) (l : List Ev) (k : Nat) (p : Path) (temps : List (Nat × Bytes)) :
    Allowed old (run ⟨old, temps, []⟩ (l.take k)) p :=
  List.foldlRecOn _ step (.inl rfl) fun s hs e _ => step_allowed old s e p hs

/-- what is renamed into place is the temporary's *complete* content at that moment -/
theorem rename_moves_whole (s : St) (id : Nat) (p : Path) (c : Bytes) (h : tempContent s id = some c) :
    (step s (.rename id p)).dest p = some (.file c) := by
  simp [step, h]

/-- the receiver's events for one file: the destination changes **iff** `receiveData` commits, and
then to exactly the content whose whole-file checksum was verified (C03) -/
theorem file_commit_or_untouched (Hfile : Bytes → Bytes) (basis : Option Bytes) (stream : Bytes) (id : Nat) (p : Path) (pc : Bytes)
    (old : Path → Option Node) :
    let s' := run ⟨old, [], []⟩ (recvFileEvents Hfile basis stream id p pc)
    (match (Recv.recvData Hfile basis stream).1 with
     | .committed c => s'.dest p = some (.file c)
     | .failed _ => s'.dest = old) ∧ s'.temps = [] := by
  rw [run_recvFileEvents]
  cases (Recv.recvData Hfile basis stream).1 with
  | committed c => simp
  | failed e => cases e <;> simp

/-- **after an error return no temporary file is left**, whatever the stream (the deferred Cleanup) -/
theorem error_leaves_no_temp (Hfile : Bytes → Bytes) (basis : Option Bytes) (stream : Bytes) (id : Nat) (p : Path) (pc : Bytes)
    (old : Path → Option Node) (e : Recv.Err) (h : (Recv.recvData Hfile basis stream).1 = .failed e) :
    (run ⟨old, [], []⟩ (recvFileEvents Hfile basis stream id p pc)).temps = [] ∧
    (run ⟨old, [], []⟩ (recvFileEvents Hfile basis stream id p pc)).dest = old := by
  rw [run_recvFileEvents, h]
  cases e <;> simp
/-- the code shape the event language stands for (regenerated, C03's facts): in `receiveData` the
pending file is created, its Cleanup deferred, every write goes through the MultiWriter of the pending
file and the hash, and the single `CloseAtomicallyReplace` comes after the checksum comparison -/
theorem code_shape : RecvOrderSpec.wellOrdered Gen.RecvOrder.events = true ∧ FsSitesSpec.pendingHelpersOk = true :=
  ⟨C03.commit_guarded_in_source, FsSitesSpec.pending_helpers_ok⟩

/-- and the content that is renamed into place is one whose whole-file checksum the receiver has
compared with the 16 bytes the sender put behind the data (C03) -/
theorem committed_content_verified (Hfile : Bytes → Bytes) (basis : Option Bytes) (stream c rest : Bytes)
    (h : Recv.recvData Hfile basis stream = (.committed c, rest)) :
    ∃ hd r r', Recv.readHead stream = .ok (hd, r) ∧ Recv.recvTokens hd basis r [] = .ok (c, r') ∧ Hfile c = r'.take 16 := by
  obtain ⟨hd, r, r', h1, h2, _, h4, _⟩ := C03.commit_implies_hash Hfile basis stream c rest h
  exact ⟨hd, r, r', h1, h2, h4⟩

/-- non-vacuity: a stream cut inside the checksum header leaves the destination and the temporaries as they were -/
example : (run ⟨fun _ => some (.file [1, 2, 3]), [], []⟩
    (recvFileEvents (fun _ => List.replicate 16 0) none [0, 0] 7 [102] [65])).dest [102] = some (.file [1, 2, 3]) := by decide

end C04
