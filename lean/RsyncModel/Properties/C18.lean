import RsyncModel.Proto
import RsyncModel.ProtoFail
import RsyncModel.Gen.ConnUse
/-! # C18 — sessions terminate and do not interfere under any interleaving

The message-level model (`Proto`): the generator G only *sends* on channel A (requests, checksum
lists), the receiver R only *receives* on channel B (file data), the sender S alternates between
receiving a request and sending that file's data, in any program. Channels are FIFOs of arbitrary
capacity, 0 included (a rendezvous, as `io.Pipe` in a local copy). The theorems hold for every pair
of capacities, every program of S (any mix of tiny files, huge literals, huge checksum lists — units
are abstract) and every schedule.

What the model rests on is *structural* and regenerated from the source on every run
(`Gen.ConnUse`): which goroutine reads and which writes the connection, and the complete inventory of
blocking primitives (goroutines, channels, locks) of the transfer packages. A lock shared by G and R,
an acknowledgement read by G, or a second goroutine in S would each be a new wait-for edge the model
does not have — and each changes the regenerated facts. -/
namespace C18
open Proto Gen.ConnUse

/-- **no deadlock**: in every state reachable in a session that is not finished, some party can
move — for all capacities (0 = unbuffered pipe, 1, small, 64 KiB, unbounded alike) -/
theorem deadlock_free (ca cb : Nat) (st : St) (h : Inv ca cb st) : terminal st ∨ ∃ st', Step ca cb st st' :=
  progress ca cb st h

inductive Reach (ca cb : Nat) (prog : List SAct) : St → Prop
  | init : Reach ca cb prog (init prog)
  | step (st st' : St) : Reach ca cb prog st → Step ca cb st st' → Reach ca cb prog st'

theorem reachable_inv (ca cb : Nat) (prog : List SAct) (st : St) (h : Reach ca cb prog st) : Inv ca cb st := by
  induction h with
  | init => exact init_inv ca cb prog
  | step st st' _ hs ih => exact preserve ca cb st st' ih hs

inductive Run (ca cb : Nat) : St → Nat → St → Prop
  | nil (st : St) : Run ca cb st 0 st
  | cons (st st' st'' : St) (n : Nat) : Step ca cb st st' → Run ca cb st' n st'' → Run ca cb st (n + 1) st''

/-- **termination under every schedule, fair or not**: no run is longer than the initial measure
(twice the number of message units plus what is in flight) -/
theorem run_bounded (ca cb : Nat) (st st' : St) (n : Nat) (h : Run ca cb st n st') : n + measure st' ≤ measure st := by
  induction h with
  | nil st => omega
  | cons st st1 st2 n hs _ ih =>
    have := measure_decreases ca cb st st1 hs
    omega

theorem session_terminates (ca cb : Nat) (prog : List SAct) (st' : St) (n : Nat) (h : Run ca cb (init prog) n st') :
    n ≤ measure (init prog) := by
  have := run_bounded ca cb _ _ n h; omega

/-- a run that cannot be extended has finished: it does not end in a deadlock -/
theorem maximal_run_finishes (ca cb : Nat) (prog : List SAct) (st : St) (h : Reach ca cb prog st)
    (hmax : ¬ ∃ st', Step ca cb st st') : terminal st := by
  rcases progress ca cb st (reachable_inv ca cb prog st h) with ht | hs
  · exact ht
  · exact absurd hs hmax

/-! ## the structure the model stands for (regenerated) -/

def topologyOk : Bool :=
  -- the generator side never reads the connection, the receiver side never writes it
  generatorReads == [] && receiverWrites == [] && !generatorWrites.isEmpty && !receiverReads.isEmpty &&
  -- blocking primitives of the receiving code: the two goroutines of Do (errgroup), waitFor's result channel, and the wait
  -- group `bg` that only the *closing of the destination root* waits on, in a goroutine of its own (D54: the root stays open
  -- until both goroutines of Do have finished); nothing the session's progress depends on
  receiverPrimitives == ["CloseWhenDone: go", "CloseWhenDone: Wait on rt.bg", "Do: eg.Go", "Do: eg.Go", "Do: Wait on eg",
    "waitFor: make-chan", "waitFor: go", "waitFor: chan-send", "waitFor: select", "waitFor: chan-recv", "waitFor: chan-recv",
    "field bg *sync.WaitGroup", "field bg sync.WaitGroup"] &&
  -- of the sending code: the per-file hash helper (joined before the trailer is written) and the two name-lookup Once values
  senderPrimitives == ["sendFile: eg.Go", "sendFile: Wait on eg", "walkFn: once.Do", "walkFn: once.Do",
    "var lookupOnce sync.Once", "var lookupGroupOnce sync.Once"] &&
  wirePrimitives == [] &&
  -- sessions share no mutable state: no function assigns a field of *Server (outside NewServer) or a package-level variable
  sharedWrites == [] &&
  -- and the only package-level variables are constants-in-disguise (option tables, an error value), the two
  -- Once values and the receiver's identity (amRoot/inGroup, set at start-up and only read: sharedWrites = []): no pool, cache or counter
  packageVars == ["internal/receiver.amRoot", "internal/receiver.inGroup", "internal/rsyncopts.debugWords",
    "internal/rsyncopts.errNotYetImplemented", "internal/rsyncopts.gokrazyDefaults", "internal/rsyncopts.infoWords",
    "internal/rsyncopts.tridgeDefaults", "internal/sender.lookupGroupOnce", "internal/sender.lookupOnce"]

theorem topology : topologyOk = true := by decide +kernel

/-! ## a session whose receiving side fails in the middle (D31)

`ProtoFail`: the receiving endpoint has failed, owes its peer an error message and then closes; the
sending peer S is anywhere in its program. Whether the failed endpoint keeps consuming what S still
sends is a fact regenerated from the source (`Gen.ConnUse.receiverErrorDrains`: in rsyncd's deferred
error handler of the receiving role, `go io.Copy(io.Discard, crd)` stands before the error frame is
written). -/

/-- **a failed session ends too**: with what the source does now, in every state in which the peer
has not stopped some step is enabled — for all capacities (0 = `io.Pipe`, the transport of every
local copy), every position of the peer in its program (in the middle of a file of any size), every
length of the error message — and every step decreases `ProtoFail.measure`, so every schedule ends. -/
theorem failing_receiver_ends (ca cb : Nat) (st : ProtoFail.St) (h : st.s ≠ []) :
    (∃ st', ProtoFail.Step receiverErrorDrains ca cb st st') ∧
    (∀ st', ProtoFail.Step receiverErrorDrains ca cb st st' → ProtoFail.measure st' < ProtoFail.measure st) := by
  have hd : receiverErrorDrains = true := by decide
  rw [hd]
  exact ⟨ProtoFail.progress_drain ca cb st h, fun st' hs => ProtoFail.measure_decreases true ca cb st st' hs⟩

/-- the generator stops requesting files once the session has failed (regenerated fact), so the
number of further requests `g` in the model is what was already under way -/
theorem generator_stops_on_failure : generatorStopsOnCancel = true := by decide

/-- **and without the draining it did not** (kept as the kernel-checked counterexample of the defect
that was repaired): the peer in the middle of a file, nobody reading, the error message stuck behind
a rendezvous or a full pipe — not finished, no step enabled, for every message length and backlog. -/
theorem failing_receiver_deadlocked_before_repair (ca cb msg : Nat) (s' : List SAct) (hmsg : 0 < msg) :
    ¬ ∃ st', ProtoFail.Step false ca cb ⟨0, msg, SAct.sendB :: s', 0, ca, cb⟩ st' :=
  ProtoFail.no_drain_deadlock_small ca cb msg s' hmsg

/-- non-vacuity: a session over rendezvous pipes in both directions, three files -/
example : Inv 0 0 (init [.recvA, .sendB, .recvA, .recvA, .sendB, .sendB, .sendB]) := init_inv 0 0 _

end C18
