import RsyncModel.PureTie
import RsyncModel.Properties.C11
/-! # C12 — files are re-sent exactly when the update rule says so; repeat syncs are no-ops -/
namespace C12
open Rx

/-- the update rule of the property statement, for an entry that is a regular file -/
def mustRequest (o : Opts) (e : Entry) (d : Option Node) : Prop :=
  match d with
  | none => True                                        -- missing
  | some n =>
    n.kind ≠ .reg ∨                                     -- not a regular file
    n.size ≠ e.size ∨                                   -- size differs
    (o.checksum = true ∧ e.sum ≠ n.sum) ∨               -- -c: content checksum differs
    (o.checksum = false ∧ o.ignoreTimes = true) ∨       -- -I (and no -c): always
    (o.checksum = false ∧ o.ignoreTimes = false ∧ n.mtime ≠ e.mtime)  -- default: mtime differs (1 s granularity)

theorem mustRequest_iff (o : Opts) (e : Entry) (n : Node) (hk : n.kind = .reg) :
    mustRequest o e (some n) ↔ skipFile o e n = false := by
  unfold mustRequest skipFile
  by_cases hs : n.size = e.size <;> cases o.checksum <;> cases o.ignoreTimes <;> simp [hk, hs]

/-- **The receiver requests a regular file iff the update rule says so** — for every option set
(dry run included: then the request is the bare index), every destination state. The one way the
step can fail instead (a non-empty directory in the way cannot be unlinked) is an error, not a
silent skip. -/
theorem request_iff (o : Opts) (e : Entry) (d : Option Node) (he : e.kind = .reg)
    (hok : (genStep o e d).res = .ok) :
    (genStep o e d).req ≠ .none ↔ mustRequest o e d := by
  rw [genStep_reg d he] at hok ⊢
  cases d with
  | none => cases o.dryRun <;> simp [mustRequest]
  | some n =>
    by_cases hk : n.kind = .reg
    · rw [mustRequest_iff o e n hk]
      cases hsk : skipFile o e n <;> cases o.dryRun <;> simp [hk, hsk]
    · have hk' : (n.kind != Kind.reg) = true := by simpa using hk
      simp only [hk', if_true] at hok ⊢
      have hm : mustRequest o e (some n) := Or.inl hk
      cases hdry : o.dryRun
      · by_cases hne : (n.kind == Kind.dir && n.nonEmpty) = true
        · simp [hdry, hne] at hok
        · simp [hne, hm]
      · simp [hm]

/-- **An immediately repeated sync requests nothing**: after a file was received under `-t` (or
compared by `-c`), the same entry is up to date on the next run. -/
theorem repeat_noop (o : Opts) (e : Entry) (d : Option Node) (he : e.kind = .reg)
    (hdry : o.dryRun = false) (hrule : (o.checksum = true) ∨ (o.times = true ∧ o.ignoreTimes = false)) :
    (genStep o e (recvFinish o e d e.size e.sum)).req = .none := by
  obtain ⟨n, hn, hk, hs, hsum, _, _, _, hm, _⟩ := C11.regular_file_metadata o e d e.size e.sum hdry
  have hskip : skipFile o e n = true := by
    unfold skipFile
    simp only [hs, bne_self_eq_false, Bool.false_eq_true, if_false]
    rcases hrule with hc | ⟨ht, hi⟩
    · simp [hc, hsum]
    · cases hc : o.checksum
      · simp [hi, hm ht]
      · simp [hsum]
  rw [hn, genStep_reg _ he]
  simp [hk, hskip]

/-- **Any change of size or (by default) of mtime is picked up.** -/
theorem change_detected (o : Opts) (e : Entry) (n : Node) (he : e.kind = .reg) (hk : n.kind = .reg)
    (hc : o.checksum = false) (hchg : n.size ≠ e.size ∨ n.mtime ≠ e.mtime) :
    (genStep o e (some n)).req ≠ .none := by
  rw [request_iff o e (some n) he (genStep_reg_ok he hk), mustRequest_iff o e n hk]
  unfold skipFile
  rcases hchg with h | h
  · simp [h]
  · cases o.ignoreTimes <;> simp [hc, h]

/-- **Any content change is picked up under `-c`** (through the checksum in the file list). -/
theorem content_change_detected (o : Opts) (e : Entry) (n : Node) (he : e.kind = .reg) (hk : n.kind = .reg)
    (hc : o.checksum = true) (hsum : e.sum ≠ n.sum) : (genStep o e (some n)).req ≠ .none := by
  rw [request_iff o e (some n) he (genStep_reg_ok he hk), mustRequest_iff o e n hk]
  simp [skipFile, hc, hsum]


/-- **`skipFile` as the source has it is the update rule the theorems above are about**: the function
body of `generator.go:skipFile` (with `modTimeEqual`), translated from /repo on every run with its
inputs as parameters, returns the model's `skipFile` for every option set, list entry and destination
node — size first, then the content checksum under `-c`, then `-I`, then the modification time at
one-second granularity (whatever the sub-second parts). -/
theorem source_update_rule (o : Opts) (e : Entry) (n : Node) (dsum : Bytes) (a b : Int)
    (ha : 0 ≤ a ∧ a < 1000000000) (hb : 0 ≤ b ∧ b < 1000000000) :
    Gen.Pure.skipFile n.size e.size o.checksum o.ignoreTimes (e.sum == n.sum) dsum
        (n.mtime * 1000000000 + a) (e.mtime * 1000000000 + b) = .ok (skipFile o e n) := by
  unfold Gen.Pure.skipFile skipFile
  rw [PureTie.modTimeEqual_tied _ _ a b ha hb]
  by_cases h1 : n.size = e.size
  · simp only [h1, bne_self_eq_false, Bool.false_eq_true, if_false]
    cases o.checksum <;> cases o.ignoreTimes <;> simp
  · have : (n.size != e.size) = true := by simpa using h1
    simp [this]

end C12
