import RsyncModel.PeerInput
import RsyncModel.Gen.ConnUse
import RsyncModel.PureTie
import RsyncModel.MuxThm
/-! # C17 — multiplex framing is transparent

The proofs rest on `MuxThm`; every constant
(`mplexBase`, tags, `maxMessageSize`, the client's bufio size) comes from `Gen.Consts`, regenerated
from `/repo` on every run. -/
namespace C17
open Mux Wire

/-- **Server side**: every frame within the size limit is well formed — its 4-byte header carries
`(7+tag)<<24 | len` and decoding it returns the same tag and the payload unchanged; a whole
sequence of frames followed by anything parses to exactly those frames. -/
theorem server_frames_roundtrip (fs : List Frame) (rest : Bytes)
    (h : ∀ f ∈ fs, f.payload.length ≤ maxMsg) :
    parse (encFrames fs ++ rest) = (fs ++ (parse rest).1, (parse rest).2) := by
  induction fs with
  | nil => rfl
  | cons f fs ih =>
    rw [encFrames, List.flatMap_cons, List.append_assoc, parse_encFrame f _ (h f (List.mem_cons_self ..)),
      ← encFrames, ih fun g hg => h g (List.mem_cons_of_mem _ hg)]
    rfl

/-- **Regenerated fact**: the client's `bufio.Reader` (ClientRun) is at least as large as the frame
size limit `maxMessageSize` enforced by `ReadMsg`, and the limit fits the 24-bit length field. -/
theorem client_buffer_covers_limit : maxMsg ≤ Gen.Consts.clientBufSize ∧ maxMsg < 2^24 :=
  ⟨by decide, maxMsg_lt⟩

/-- **No reader panic, for every byte stream** a server (or anyone) may send, every request size
and every buffer state: `MultiplexReader.Read`'s `panic("not enough buffer space")` is unreachable
behind the client's buffer. -/
theorem client_never_panics (stream : Bytes) (buffered : Bytes) (k : Nat) (acc : Bytes) :
    (readFull Gen.Consts.clientBufSize k acc ⟨buffered, (parse stream).1, (parse stream).2⟩).1 ≠ Res.panic :=
  readFull_no_panic _ client_buffer_covers_limit.1 k acc _ (parse_payload_le stream)

/-- **Transparency**: what a `ReadFull` returns is the next `k` bytes of the concatenated *data*
payloads — for every split into frames of any legal size (including empty ones), with info frames
anywhere and however many. -/
theorem client_reads_data_only (k : Nat) (acc : Bytes) (st : St)
    (hben : Benign st.frames) (hk : k ≤ (view st).length) :
    ∃ st', readFull Gen.Consts.clientBufSize k acc st = (Res.ok (acc ++ (view st).take k), st') ∧
      view st' = (view st).drop k ∧ Benign st'.frames ∧ st'.fin = st.fin :=
  readFull_spec _ client_buffer_covers_limit.1 k acc st hben hk

/-- Two framings of the same data are indistinguishable to a client read. -/
theorem reframing_invariant (k : Nat) (fs gs : List Frame) (e e' : End)
    (hf : Benign fs) (hg : Benign gs) (hd : dataOf fs = dataOf gs) (hk : k ≤ (dataOf fs).length) :
    (readFull Gen.Consts.clientBufSize k [] ⟨[], fs, e⟩).1 = (readFull Gen.Consts.clientBufSize k [] ⟨[], gs, e'⟩).1 := by
  obtain ⟨s1, h1, _⟩ := client_reads_data_only k [] ⟨[], fs, e⟩ hf (by simpa [view] using hk)
  obtain ⟨s2, h2, _⟩ := client_reads_data_only k [] ⟨[], gs, e'⟩ hg (by simpa [view, ← hd] using hk)
  rw [h1, h2]; simp [view, hd]

/-- non-vacuity: a concrete benign framing with empty, info and data frames meets the hypotheses -/
example : Benign [⟨tagData, []⟩, ⟨tagInfo, [1, 2]⟩, ⟨tagData, [3]⟩, ⟨tagData, [4, 5]⟩] ∧
    dataOf [⟨tagData, []⟩, ⟨tagInfo, [1, 2]⟩, ⟨tagData, [3]⟩, ⟨tagData, [4, 5]⟩] = dataOf [⟨tagData, [3, 4, 5]⟩] := by
  constructor
  · intro f hf
    simp at hf
    rcases hf with h | h | h | h <;> subst h <;> decide
  · decide


/-! ### Tie to the source (regenerated translation `Gen.Pure`) -/

/-- the header expression of `WriteMsg` and the decoding in `ReadMsg`, translated from /repo on
every run, are the model's `header`, `tagOf`, `lenOf` -/
theorem source_header (tag : UInt8) (p bs : Bytes) (t0 : UInt8) :
    Gen.Pure.muxHeader tag p = header tag p.length ∧
    Gen.Pure.muxDecode (hdrOf bs) t0 = (tagOf bs, hdrOf bs &&& 0x00FFFFFF) :=
  ⟨PureTie.muxHeader_tied tag p, PureTie.muxDecode_tied bs t0⟩


/-- **Regenerated fact**: every read of the wire layer (`rsyncwire.Conn`, the counting reader, the
demultiplexer) goes through `io.ReadFull` / `binary.Read` / the underlying `Read`. None goes through a
buffered reader's byte-wise path (`ReadByte`, `Peek`, `ReadString`), which gives up with
`io.ErrNoProgress` after 100 reads that return no data — exactly what a run of info frames or empty
data frames makes the demultiplexer's `Read` do. `client_reads_data_only` (any number of such frames
anywhere) rests on this. -/
theorem wire_reads_through_readfull :
    Gen.ConnUse.wireReads = ["CountingReader.Read: r.R.Read", "Conn.ReadByte: io.ReadFull", "Conn.ReadInt32: io.ReadFull",
      "Conn.ReadInt64: c.ReadInt32", "Conn.ReadInt64: binary.Read", "MultiplexReader.ReadMsg: binary.Read",
      "MultiplexReader.ReadMsg: io.ReadFull"] := rfl


/-- **`ReadMsg` as the source has it reads exactly the model's first frame** (translated from /repo
on every run): same tag, same payload, same unread rest as `Mux.parse` finds; an error exactly when
the input is short or the declared length exceeds the limit -/
theorem source_read_msg (inp : Bytes) :
    Gen.Pure.ReadMsg inp =
      if inp.length < 4 then .err
      else if lenOf inp > maxMsg then .err
      else if (inp.drop 4).length < lenOf inp then .err
      else .ok (tagOf inp, (inp.drop 4).take (lenOf inp), (inp.drop 4).drop (lenOf inp)) :=
  PeerInput.readMsg_tied inp

end C17
