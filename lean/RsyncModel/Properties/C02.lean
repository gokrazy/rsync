import RsyncModel.RecvTie
import RsyncModel.MapFile
import RsyncModel.PureTie
import RsyncModel.RoundTripHonest
import RsyncModel.Checksum
import RsyncModel.SumsTie
/-! # C02 — delta encoding and decoding are exact for every basis, target and block layout

`Hs` (seeded strong block hash) and `Hfile` (seeded whole-file hash) are arbitrary functions: MD4 is
not modelled in any theorem. Constants (`chunkSize`, 700, 16, 2²⁹) are regenerated from the source. -/
namespace C02
open Spec Delta Recv

/-- **Refinement**: the sender's loop as the Go code runs it — rolling `uint32` pair updated as
`hashSearch` (match.go) updates it, the recompute-one-byte-early-and-roll step after a match,
`chunkSize` cutting, the early flush — emits exactly the tokens of the three-line greedy
specification. For every header `ReadFrom` accepts (`bl < 2³²`), every list of sums (honest or not)
and every target. -/
theorem sender_refines_greedy (Hs : Bytes → Bytes) (h : Head) (sums : List Delta.Sum) (t : Bytes)
    (hbl : h.bl < 4294967296) :
    flat (senderTokens Hs h sums t) =
      greedy (mkCtx Hs h sums) (pickGo (mkCtx Hs h sums) (mkCtx_W Hs h sums)) t :=
  senderTokens_eq_greedy Hs h sums t hbl

/-- **Every reference is justified and nothing is lost**: scanning the target left to right, each
literal token is the next target byte and each reference to block `i` stands at a window whose
length equals the block's, whose weak sum equals `sum1` and whose strong sum agrees with `sum2` on
the first `csLen` bytes; the tokens end exactly at the end of the target (no byte lost, duplicated
or reordered). Holds for any signature whatsoever. -/
theorem sender_tokens_justified (Hs : Bytes → Bytes) (h : Head) (sums : List Delta.Sum) (t : Bytes)
    (hbl : h.bl < 4294967296) :
    Justified (mkCtx Hs h sums) t (flat (senderTokens Hs h sums t)) := by
  rw [sender_refines_greedy Hs h sums t hbl]; exact greedy_justified _ _ t

/-- **A mere weak-checksum collision never produces a block reference**: a window matches a block
only if the strong sums agree on `csLen` bytes — with `csLen = 16` on the whole MD4 value. -/
theorem weak_collision_is_not_a_match (c : Ctx) (w : Bytes) (i : Nat) (b : Block)
    (hb : c.blocks[i]? = some b) (hstrong : b.sum2.take c.csLen ≠ (c.H w).take c.csLen) :
    c.matches w i = false := by
  simp only [Ctx.matches, hb]
  simp [hstrong]

/-- **Exactness of the specification**: when a matching window *is* the block it matches, applying
the greedy stream reproduces the target. -/
theorem sender_exact (c : Ctx) (p : Pick c) (blk : Nat → Bytes)
    (hfaithful : ∀ w i, c.matches w i = true → blk i = w) (t : Bytes) :
    Spec.apply blk (greedy c p t) = t := Spec.sender_exact c p blk hfaithful t

/-- literal chunks on the wire never exceed `chunkSize` (256 KiB, regenerated) -/
theorem literal_chunks_le_chunkSize (bs : Bytes) : ∀ p ∈ goChunker.cut bs, p.length ≤ chunkSize :=
  fun p hp => (mem_cutChunks chunkSize bs p hp).2 (by decide)

/-- **`Checksum1` is the weak sum**: the 4-unrolled `uint32` loop of rsyncchecksum.go, split as the
sender does (`sum & 0xFFFF`, `sum >> 16`), is the canonical 16-bit pair of the unbounded signed-char
sums `S1`, `S2` of the window. -/
theorem checksum1_is_weak_sum (buf : Bytes) :
    ((checksum1 buf) &&& (0xFFFF : UInt32), (checksum1 buf) >>> 16) = wsum buf := checksum1_halves buf

/-- **The rolling update is exact**: from the pair of the window at one offset, match.go's update
yields the pair of the window at the next offset — in both branches (`more`: slide; else: shrink). -/
theorem rolling_update_exact (c : Ctx) (hbl : c.bl < 4294967296) (x : UInt8) (xs : Bytes) :
    rollGo c (wsum (c.win (x :: xs))) x xs = wsum (c.win xs) := rollGo_wsum c hbl x xs

/-- **The receiver writes what the stream denotes**: any basis, any header, literal runs of any
chunking, references in any order. -/
theorem receiver_denotes (hd : Head) (basis : Bytes) (ts : List ATok) (rest acc out : Bytes)
    (hok : WireOk ts) (hden : denote hd basis ts = some out) :
    recvTokens hd (some basis) (encToks ts ++ rest) acc = .ok (acc ++ out, rest) :=
  recvTokens_denotes hd basis ts rest acc out hok hden

/-- **Sender and receiver agree on block offsets and lengths**: the receiver's
`ReadAt(idx·bl, len)` returns exactly block `idx` of the basis as cut by the signature generator,
short last block included. -/
theorem offsets_agree (blm1 cs : Nat) (basis : Bytes) (i : Nat) (hi : i < (honestHead blm1 cs basis).count) :
    readBlock (honestHead blm1 cs basis) basis i = (splitBlocks blm1 basis)[i]? :=
  readBlock_honest blm1 cs basis i hi

/-- **Round trip**: the sender's stream for any target against an honest signature of any basis is
reconstructed and committed by the receiver as exactly the target (hypothesis: no truncated
strong-hash collision between a basis block and a different window of the same length). -/
theorem roundtrip (Hs Hfile : Bytes → Bytes) (blm1 cs : Nat) (basis t rest : Bytes)
    (hcs : cs ≤ maxCsLen) (hbl : blm1 + 1 ≤ maxBlockLen)
    (hcount : (honestHead blm1 cs basis).count < 2147483648)
    (hfile16 : (Hfile t).length = 16)
    (nocoll : ∀ (i : Nat) (p w : Bytes), (splitBlocks blm1 basis)[i]? = some p → p.length = w.length →
      (Hs p).take cs = (Hs w).take cs → p = w) :
    recvData Hfile (some basis)
        (encHead (honestHead blm1 cs basis) ++
          (encToks (senderTokens Hs (honestHead blm1 cs basis) (honestSums Hs blm1 basis) t) ++ (Hfile t ++ rest)))
      = (.committed t, rest) :=
  roundtrip_honest Hs Hfile blm1 cs basis t rest hcs hbl hcount hfile16 nocoll

/-- the block length the real generator picks is within the sender's accepted range (regenerated constants) -/
theorem generator_layout_accepted : Gen.Consts.blockSize ≤ maxBlockLen ∧ Gen.Consts.checksumLength ≤ maxCsLen := by decide


/-! ### Tie to the source (regenerated translation `Gen.Pure`, see `tools/extract/pure.go`) -/

/-- **`rsyncchecksum.Checksum1` as the source has it is the model's `checksum1`** — the loops are
translated from /repo on every run; the theorem also shows that no index is out of range and the
loops end within `len(buf)` iterations, for every buffer. -/
theorem source_checksum1 (buf : Bytes) : Gen.Pure.Checksum1 buf = .ok (checksum1 buf) :=
  PureTie.checksum1_tied buf

/-- **The sender reads what is in the file**: `mapStruct.ptr` (internal/sender/fileio.go, translated
from /repo on every run; only its final read loop is a hand model) serves *every* sequence of
requests inside the file — sliding forward, jumping back by the pending literal run, crossing the
256 KiB window any number of times, growing the window — with exactly the file's bytes, never an
error, never a slice out of range, never a read past the end of the file. So the literal data and
the whole-file hash the sender computes are computed from the file's real content. -/
theorem source_window_exact (file : Bytes) (dw : Int) (reqs : List (Int × Int32))
    (h : ∀ r ∈ reqs, MapFile.Req.ok file r) :
    MapFile.serve file ⟨file.length, 0, 0, [], 0, 0, dw⟩ reqs
      = .ok (reqs.map fun r => (file.drop r.1.toNat).take r.2.toInt.toNat) :=
  MapFile.serve_correct file reqs _ (MapFile.inv_init file dw) h

/-- **Both sides give block `i` the same length and the receiver reads it at `i · blockLength`**
(computed in 64 bits): `receiveSums` (sender) and `receiveData` (receiver), both translated from
/repo, agree with the model's `blockLen` for every validated header and every index. -/
theorem source_block_span (h : PureTie.Head32) (hok : h.ok) (cs : Nat) (tok : Int32) (hneg : tok.toInt < 0) :
    let idx := (-(tok.toInt + 1)).toNat
    Gen.Pure.refSpan tok h.count h.bl h.rem =
      (-(tok + 1), ((idx * (h.toHead cs).bl : Nat) : Int), Int32.ofInt (Delta.blockLen (h.toHead cs) idx)) ∧
    (∀ (i : Int32) (x : Int), 0 ≤ i.toInt →
      Gen.Pure.sumLen i h.count h.bl h.rem x = (Delta.blockLen (h.toHead cs) i.toInt.toNat : Int)) :=
  ⟨PureTie.refSpan_tied h hok cs tok hneg, fun i _ hi => PureTie.blockLen_toHead h hok cs i hi⟩

/-- the sender's window length and the length it demands of a candidate block are the same quantity -/
theorem source_window_length (bl : Int32) (size offset k0 : Int) :
    Gen.Pure.candLen bl size offset = Gen.Pure.chunkLen bl size offset k0 ∧
    Gen.Pure.chunkLen bl size offset k0 = min bl.toInt (size - offset) :=
  ⟨rfl, PureTie.chunkLen_tied bl size offset k0⟩

/-- the block layout the generator chooses (`SumSizesSqroot`, translated) is the model's `sumSizes` -/
theorem source_sum_sizes (len : Nat) (h : Nat.sqrt len < 2147483648)
    (hc : (len + ((Delta.sumSizes len).bl - 1)) / (Delta.sumSizes len).bl < 2147483648) :
    Gen.Pure.sumSizesCount (len : Int) (Gen.Pure.SumSizesSqroot (len : Int))
      = .ok (Int32.ofInt ((Delta.sumSizes len).count : Int), Int32.ofInt ((Delta.sumSizes len).rem : Int),
             Gen.Pure.SumSizesSqroot (len : Int), (Gen.Consts.checksumLength : Int)) ∧
    (Gen.Pure.SumSizesSqroot (len : Int)).toInt = ((Delta.sumSizes len).bl : Int) :=
  ⟨PureTie.sumSizes_count_tied len h, PureTie.sumSizes_blockLength_tied len h⟩


/-- **`simpleSendToken` as the source has it** (token.go, translated from /repo on every run with the
connection as an output log and `ms.ptr` as the file's bytes — which `source_window_exact` proves of
the real `ptr`): an unmatched run of `n` bytes at `offset` leaves as exactly the model's chunks —
non-empty, at most `chunkSize` (`literal_chunks_le_chunkSize`), concatenating to the run — each as a
length word followed by its bytes, then the token word `-(token+1)`, nothing for the flush token -2;
no byte lost, duplicated or reordered, for every run length. -/
theorem source_send_token (token : Int32) (offset n : Int) (file : Bytes) (out : List Go.Out) (h0 : 0 ≤ offset) (hn : 0 ≤ n)
    (hin : offset + n ≤ (file.length : Int)) :
    Gen.Pure.sendToken token offset n file out =
      .ok (out ++ PureTie.emitChunks (cutChunks chunkSize ((file.drop offset.toNat).take n.toNat)) ++
            (if token = -2 then [] else [Go.Out.i32 (-(token + 1))])) := by
  obtain ⟨n, rfl⟩ := Int.eq_ofNat_of_zero_le hn
  rw [show chunkSize = 262144 from rfl, Gen.Pure.sendToken]
  have tok : ∀ o : List Go.Out, (if (token != (-2 : Int32)) = true then Go.Res.ok (o ++ [Go.Out.i32 (-(token + 1))]) else Go.Res.ok o) =
      .ok (o ++ if token = -2 then [] else [Go.Out.i32 (-(token + 1))]) := by
    intro o; by_cases ht : token = -2 <;> simp [ht]
  by_cases hpos : 0 < n
  · obtain ⟨l, hl⟩ := PureTie.sendToken_loop file n offset token out h0 hin
    simp only [gt_iff_lt, Int.natCast_pos, hpos, decide_true, if_true, Int.toNat_natCast, hl, Go.bind_ok, tok]
  · obtain rfl : n = 0 := by omega
    simp only [gt_iff_lt, Int.natCast_pos, hpos, decide_false, Bool.false_eq_true, if_false, Go.bind_ok, tok, Int.toNat_natCast,
      List.take_zero, Delta.cutChunks_nil, PureTie.emitChunks, List.flatMap_nil, List.append_nil]

/-- **the early flush never re-sends data**: the condition `hashSearch` tests before flushing a long
unmatched run (translated from /repo on every run) implies that the flush point `offset − blockLength`
lies at least `chunkSize` ahead of `lastMatch`, for every block length a header may carry — so
`matched` is called with a positive run length and never reaches back over bytes a block reference
already covered (with a threshold that ignores the block length it would, for blocks beyond 256 KiB). -/
theorem source_flush_is_forward (offset lastMatch end_ : Int) (bl : Int32)
    (h : Gen.Pure.flushCond (offset - lastMatch) bl end_ offset false = true) :
    lastMatch + (chunkSize : Int) ≤ offset - bl.toInt := by
  rw [PureTie.flushCond_tied] at h
  have := of_decide_eq_true h
  omega


/-- **the receiver's token loop as the source has it is the model's `recvTokens`** (receiver.go
`receiveData` from `offset := 0` to the end of the loop, and token.go `recvToken`, both translated
from /repo on every run: the connection is a byte list that is consumed, the pending file a byte list
that grows, the basis a byte list read at offsets). For every input stream — valid or not —, every
validated header and every basis (or none): the same bytes are written and the same input is left
unread as in the model about which `receiver_denotes` and `roundtrip` are proved; the source returns
an error exactly where the model fails; it never panics, and the loop ends within `len(input)+1`
passes. -/
theorem source_receiver_loop (h : PureTie.Head32) (hok : h.ok) (cs : Nat) (basis : Bytes) (hasBasis : Bool) (inp acc : Bytes) :
    Gen.Pure.recvLoop inp basis hasBasis h.count h.bl h.rem acc =
      match recvTokens (h.toHead cs) (if hasBasis then some basis else none) inp acc with
      | .ok (c, r) => .ok (c, r)
      | .error _ => .err :=
  RecvTie.recvLoop_tied h hok cs basis hasBasis inp acc

/-- **The generator's signature loop, as the source has it** (`generateAndSendSums`, translated on every run with the
basis file as a byte list that is consumed and the strong hash as a parameter): it reads the file to its end and writes, for
each piece of the model's `splitBlocks` in order, the weak sum (`Checksum1` as translated) and the strong sum — for every
file, block length ≥ 1 and the matching block count -/
theorem source_sum_generator (H : List UInt8 → List UInt8) (bl : Int32) (blm1 : Nat) (hbl : bl.toInt = (blm1 + 1 : Nat))
    (count : Int32) (file : List UInt8) (hcount : count.toInt = ((Delta.splitBlocks blm1 file).length : Nat)) (out : List Go.Out) :
    Gen.Pure.genSums (file.length : Int) bl count file out H =
      .ok (out ++ SumsTie.sumFrames H (Delta.splitBlocks blm1 file), []) :=
  SumsTie.genSums_tied H bl blm1 hbl count file hcount out

/-- **The sender's signature reader, as the source has it** (`receiveSums`' loop): per wire entry the index, the running
offset, the model's `blockLen`, the weak sum and the strong-sum bytes; the rest of the input stays unread -/
theorem source_sum_reader (h : PureTie.Head32) (hok : h.ok) (cs : Nat) (csLen : Int32) (ps : List (Int32 × List UInt8))
    (rest : List UInt8) (L0 : Int) (hps : ∀ p ∈ ps, (p.2.length : Int) = csLen.toInt) (hn : (ps.length : Int) = h.count.toInt) :
    Gen.Pure.recvSums h.count h.bl h.rem csLen (SumsTie.wireSums ps ++ rest) [] L0 = .ok (SumsTie.recs h cs 0 0 ps, rest) :=
  SumsTie.recvSums_tied h hok cs csLen ps rest L0 hps hn

/-- **and together**: what the translated generator loop sends, the translated sender loop reads as the honest
signatures of the basis file's pieces -/
theorem source_signatures_roundtrip (H : List UInt8 → List UInt8) (hH : ∀ w, (H w).length = 16) (h : PureTie.Head32) (hok : h.ok)
    (cs blm1 : Nat) (hbl : h.bl.toInt = (blm1 + 1 : Nat)) (file rest : List UInt8)
    (hcount : h.count.toInt = ((Delta.splitBlocks blm1 file).length : Nat)) (L0 : Int) :
    ∃ out, Gen.Pure.genSums (file.length : Int) h.bl h.count file [] H = .ok (out, []) ∧
      Gen.Pure.recvSums h.count h.bl h.rem 16 (SendFile.wireOf out ++ rest) [] L0 =
        .ok (SumsTie.recs h cs 0 0 ((Delta.splitBlocks blm1 file).map fun w => ((Spec.checksum1 w).toInt32, H w)), rest) := by
  refine ⟨SumsTie.sumFrames H (Delta.splitBlocks blm1 file), ?_, ?_⟩
  · simpa using SumsTie.genSums_tied H h.bl blm1 hbl h.count file hcount []
  · rw [SumsTie.wireOf_sumFrames]
    apply SumsTie.recvSums_tied h hok cs 16 _ rest L0
    · intro p hp
      obtain ⟨w, _, rfl⟩ := List.mem_map.mp hp
      simp [hH w]
    · simp [hcount]

end C02
