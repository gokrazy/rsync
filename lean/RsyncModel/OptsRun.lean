import RsyncModel.OptsLex
/-! Interpreter lemmas: options whose whole effect in the main loop is a list of field updates, each a constant stored
or an increment (`Upd`), after `requireNonzero` tests at most ("set-only"; `Eff`, which `rowEff` computes from a row and
its clause of `mainCases`), and the main loop folded over a table of *conditionally present* such options
(`runMain_present`). That table is a variable; what the lemmas need of it are Boolean side conditions
(`allNonzero`, `reqsOk`). -/
namespace Opts
open Gen.OptTable

abbrev Upd := Field × Option Int

def applyUpd (s : St) (p : Upd) : St :=
  match p.2 with
  | some v => s.set p.1 v
  | none => s.set p.1 (s.ints p.1 + 1)

def applySets (sets : List Upd) (s : St) : St := sets.foldl applyUpd s

def actsSets : List Act → Option (List Upd)
  | [] => some []
  | .set f v :: rest => (actsSets rest).map ((f, some v) :: ·)
  | .incr f :: rest => (actsSets rest).map ((f, none) :: ·)
  | _ => none

def actsEff : List Act → Option (List Field × List Upd)
  | .requireNonzero f :: rest => (actsEff rest).map (fun p => (f :: p.1, p.2))
  | acts => (actsSets acts).map (fun s => ([], s))

structure Eff where
  reqs : List Field
  sets : List Upd

def ownSets (r : Row) : Option (List Upd) :=
  match r.target, r.kind with
  | none, _ => some []
  | some f, .none => some [(f, some 1)]
  | some f, .val => some [(f, some r.val)]
  | _, _ => none

/-- a row that comes back to the switch, `own` being its own stores. The switch runs after them, so the clause's
`requireNonzero` tests read the state they leave; they count as tests of the state before the option only if there is
no such test or no own store, and otherwise the row has no `Eff` -/
def specialEff (r : Row) (own : List Upd) : Option Eff :=
  match actsEff ((lookupCase r.val mainCases).getD mainCasesDefault) with
  | none => none
  | some (reqs, sets) => if reqs.isEmpty || own.isEmpty then some ⟨reqs, own ++ sets⟩ else none

def rowEff (r : Row) : Option Eff :=
  match ownSets r with
  | none => none
  | some own => if isSpecial r then specialEff r own else some ⟨[], own⟩

theorem runActs_sets (arg : Str) (acts : List Act) (sets : List Upd) (s : St)
    (h : actsSets acts = some sets) : runActs arg acts s = .next (applySets sets s) := by
  induction acts generalizing sets s with
  | nil => simp [actsSets] at h; subst h; rfl
  | cons a rest ih =>
    cases a with
    | set f v =>
      obtain ⟨sets', hs, rfl⟩ := Option.map_eq_some_iff.mp h
      simp [runActs, applySets, applyUpd, ih sets' (s.set f v) hs]
    | incr f =>
      obtain ⟨sets', hs, rfl⟩ := Option.map_eq_some_iff.mp h
      simp [runActs, applySets, applyUpd, ih sets' (s.set f (s.ints f + 1)) hs]
    | _ => cases h

theorem runActs_eff (arg : Str) (acts : List Act) (reqs : List Field) (sets : List Upd) (s : St)
    (h : actsEff acts = some (reqs, sets)) (hr : ∀ f ∈ reqs, s.ints f ≠ 0) :
    runActs arg acts s = .next (applySets sets s) := by
  induction acts generalizing reqs with
  | nil => simp [actsEff, actsSets] at h; obtain ⟨rfl, rfl⟩ := h; rfl
  | cons a rest ih =>
    cases a with
    | requireNonzero f =>
      simp only [actsEff, Option.map_eq_some_iff] at h
      obtain ⟨p, hp, hpe⟩ := h
      cases hpe
      have hf : s.ints f ≠ 0 := hr f (by simp)
      simp only [runActs, hf, if_false]
      exact ih p.1 hp (fun g hg => hr g (by simp [hg]))
    | _ =>
      simp only [actsEff, Option.map_eq_some_iff, Prod.mk.injEq] at h
      obtain ⟨ss, hss, -, rfl⟩ := h
      exact runActs_sets arg _ _ s hss

theorem applySets_append (a b : List Upd) (s : St) : applySets (a ++ b) s = applySets b (applySets a s) := by
  simp [applySets, List.foldl_append]

theorem store_own (r : Row) (own : List Upd) (s : St) (h : ownSets r = some own) :
    store r [] s = some (applySets own s) := by
  unfold ownSets at h
  unfold store
  split at h
  next ht => cases h; rw [ht]; rfl
  next f ht hk => cases h; rw [ht, hk]; rfl
  next f ht hk => cases h; rw [ht, hk]; rfl
  · cases h

theorem stepTok_eff (r : Row) (e : Eff) (s : St) (h : rowEff r = some e)
    (hr : ∀ f ∈ e.reqs, s.ints f ≠ 0) :
    stepTok mainCases mainCasesDefault (.opt r []) s = .next (applySets e.sets s) := by
  unfold rowEff at h
  split at h
  · cases h
  next own ho =>
    simp only [stepTok, store_own r own s ho]
    split at h
    next hsp =>
      unfold specialEff at h
      split at h
      · cases h
      next reqs sets he =>
        split at h
        next hc =>
          cases h
          have hr' : ∀ f ∈ reqs, (applySets own s).ints f ≠ 0 := by
            rcases Bool.or_eq_true _ _ |>.mp hc with h | h
            · simp [List.isEmpty_iff.mp h]
            · rw [List.isEmpty_iff.mp h]; exact hr
          rw [if_pos hsp, runActs_eff [] _ reqs sets _ he hr', applySets_append]
        · cases h
    next hsp => cases h; rw [if_neg hsp]

/-! ### what a list of updates does to one field -/

theorem applyUpd_other (s : St) (p : Upd) (f : Field) (h : p.1 ≠ f) : (applyUpd s p).ints f = s.ints f := by
  unfold applyUpd; split <;> simp [St.set, Ne.symm h]

def allPos (sets : List Upd) : Bool := sets.all (fun p => match p.2 with | some v => decide (0 < v) | none => true)

theorem applyUpd_pos (s : St) (p : Upd) (hp : allPos [p] = true) (h : p.2.isSome ∨ 0 ≤ s.ints p.1) :
    0 < (applyUpd s p).ints p.1 := by
  obtain ⟨g, v⟩ := p
  cases v with
  | some c => simpa [applyUpd, St.set, allPos] using hp
  | none => simp only [applyUpd, St.set, if_true]; simp at h; omega

theorem applySets_other (sets : List Upd) (s : St) (f : Field)
    (h : sets.any (fun p => p.1 == f) = false) : (applySets sets s).ints f = s.ints f := by
  refine List.foldlRecOn sets applyUpd (motive := fun s' => s'.ints f = s.ints f) rfl fun s' ih p hp => ?_
  rw [applyUpd_other s' p f, ih]
  simpa using List.any_eq_false.mp h p hp

theorem applySets_version (sets : List Upd) (s : St) : (applySets sets s).version = s.version :=
  List.foldlRecOn sets applyUpd (motive := fun s' => s'.version = s.version) rfl fun s' ih p _ => by
    rw [← ih]; unfold applyUpd; split <;> rfl

theorem applySets_nonneg (sets : List Upd) (s : St) (f : Field) (hpos : allPos sets = true) (h0 : 0 ≤ s.ints f) :
    0 ≤ (applySets sets s).ints f ∧ (0 < s.ints f → 0 < (applySets sets s).ints f) := by
  refine List.foldlRecOn sets applyUpd (motive := fun s' => 0 ≤ s'.ints f ∧ (0 < s.ints f → 0 < s'.ints f)) ⟨h0, id⟩
    fun s' ih p hp => ?_
  by_cases hf : p.1 = f
  · have := applyUpd_pos s' p (by simpa [allPos] using List.all_eq_true.mp hpos p hp) (.inr (hf ▸ ih.1))
    rw [hf] at this
    exact ⟨Int.le_of_lt this, fun _ => this⟩
  · rwa [applyUpd_other s' p f hf]

theorem applySets_pos (sets : List Upd) (s : St) (f : Field) (hpos : allPos sets = true)
    (h : ∃ p ∈ sets, p.1 = f ∧ (p.2.isSome ∨ 0 ≤ s.ints f)) : 0 < (applySets sets s).ints f := by
  obtain ⟨p, hp, rfl, hs⟩ := h
  obtain ⟨a, b, rfl⟩ := List.append_of_mem hp
  simp only [allPos, List.all_append, List.all_cons, Bool.and_eq_true] at hpos
  rw [applySets_append, applySets, List.foldl_cons]
  have hp' := applyUpd_pos (applySets a s) p (by simpa [allPos] using hpos.2.1)
    (hs.imp_right fun h0 => (applySets_nonneg a s _ hpos.1 h0).1)
  exact (applySets_nonneg b _ _ hpos.2.2 (Int.le_of_lt hp')).2 hp'

theorem applySets_nz (sets : List Upd) (s : St) (f : Field) (hpos : allPos sets = true) (h0 : 0 ≤ s.ints f) :
    ((applySets sets s).ints f ≠ 0) ↔ (s.ints f ≠ 0 ∨ sets.any (fun p => p.1 == f) = true) := by
  cases h : sets.any (fun p => p.1 == f)
  · simp [applySets_other sets s f h]
  · obtain ⟨p, hp, hpf⟩ := List.any_eq_true.mp h
    have := applySets_pos sets s f hpos ⟨p, hp, by simpa using hpf, .inr h0⟩
    simp; omega

/-! ### the same for the options present in a table: their updates in one list -/

abbrev CTab := List (BExpr CAtom × Row × Eff)

def presentRows (σ : Acc → Bool) (t : CTab) : List (Row × Eff) := (t.filter (fun p => cEval σ p.1)).map (·.2)

def applyAll (l : List (Row × Eff)) (s : St) : St := l.foldl (fun s p => applySets p.2.sets s) s

def setsField (e : Eff) (f : Field) : Bool := e.sets.any (fun p => p.1 == f)

def allNonzero (t : CTab) : Bool := t.all (fun p => allPos p.2.2.sets)

theorem applyAll_eq (l : List (Row × Eff)) (s : St) : applyAll l s = applySets (l.flatMap (·.2.sets)) s := by
  simp only [applyAll, applySets, List.foldl_flatMap]

theorem any_presentRows (σ : Acc → Bool) (t : CTab) (q : Upd → Bool) :
    ((presentRows σ t).flatMap (·.2.sets)).any q = t.any (fun p => cEval σ p.1 && p.2.2.sets.any q) := by
  simp only [presentRows, List.any_flatMap, List.any_map, List.any_filter]; rfl

theorem allPos_presentRows (σ : Acc → Bool) (t : CTab) (h : allNonzero t = true) :
    allPos ((presentRows σ t).flatMap (·.2.sets)) = true := by
  rw [allPos, List.all_flatMap, List.all_eq_true]
  intro p hp
  obtain ⟨q, hq, rfl⟩ := List.mem_map.mp hp
  exact List.all_eq_true.mp h q (List.mem_filter.mp hq).1

theorem applyAll_nonneg (σ : Acc → Bool) (t : CTab) (s : St) (f : Field) (hnz : allNonzero t = true) (h0 : 0 ≤ s.ints f) :
    0 ≤ (applyAll (presentRows σ t) s).ints f ∧ (0 < s.ints f → 0 < (applyAll (presentRows σ t) s).ints f) := by
  rw [applyAll_eq]; exact applySets_nonneg _ s f (allPos_presentRows σ t hnz) h0

theorem applyAll_nz (σ : Acc → Bool) (t : CTab) (s : St) (f : Field) (hnz : allNonzero t = true) (h0 : 0 ≤ s.ints f) :
    ((applyAll (presentRows σ t) s).ints f ≠ 0) ↔
      (s.ints f ≠ 0 ∨ t.any (fun p => cEval σ p.1 && setsField p.2.2 f) = true) := by
  rw [applyAll_eq, applySets_nz _ s f (allPos_presentRows σ t hnz) h0, any_presentRows]; rfl

theorem applyAll_other (σ : Acc → Bool) (t : CTab) (s : St) (f : Field)
    (h : t.any (fun p => setsField p.2.2 f) = false) :
    (applyAll (presentRows σ t) s).ints f = s.ints f := by
  rw [applyAll_eq, applySets_other]
  rw [any_presentRows, List.any_eq_false]
  intro p hp
  have := List.any_eq_false.mp h p hp
  simp only [setsField] at this
  simp [this]

theorem applyAll_version (l : List (Row × Eff)) (s : St) : (applyAll l s).version = s.version := by
  rw [applyAll_eq, applySets_version]

def nzNext (c : BExpr CAtom) (e : Eff) (nz : List Field) : List Field :=
  match c with
  | .tt => (e.sets.filter (·.2.isSome)).map (·.1) ++ nz
  | _ => nz

theorem mem_nzNext {c : BExpr CAtom} {e : Eff} {nz : List Field} {f : Field} (h : f ∈ nzNext c e nz) :
    f ∈ nz ∨ c = .tt ∧ ∃ q ∈ e.sets, q.1 = f ∧ q.2.isSome := by
  cases c with
  | tt =>
    simp only [nzNext, List.mem_append, List.mem_map, List.mem_filter] at h
    rcases h with ⟨q, ⟨hq, hqs⟩, rfl⟩ | h
    · exact .inr ⟨rfl, q, hq, rfl, hqs⟩
    · exact .inl h
  | _ => exact .inl h

/-- requirement check: walking the table in order, every option's `reqs` are among the fields
known to be non-zero whatever the assignment: those in `nz` initially, plus the stores of
*unconditional* options met so far -/
def reqsOk : CTab → List Field → Bool
  | [], _ => true
  | (c, _, e) :: rest, nz => e.reqs.all (nz.contains ·) && reqsOk rest (nzNext c e nz)

theorem runMain_present (all : List Str) (σ : Acc → Bool) (t : CTab) (s : St) (nz : List Field)
    (hrows : ∀ p ∈ t, rowEff p.2.1 = some p.2.2)
    (hnz : allNonzero t = true) (hreq : reqsOk t nz = true) (hs : ∀ f ∈ nz, 0 < s.ints f) :
    runMain all ((presentRows σ t).map (fun p => .opt p.1 [])) s = finish all.length (applyAll (presentRows σ t) s) := by
  induction t generalizing s nz with
  | nil => simp [presentRows, applyAll, runMain]
  | cons p rest ih =>
    obtain ⟨c, r, e⟩ := p
    have hre : rowEff r = some e := hrows _ List.mem_cons_self
    have hrest : ∀ p ∈ rest, rowEff p.2.1 = some p.2.2 := fun p hp => hrows p (List.mem_cons_of_mem _ hp)
    simp only [allNonzero, List.all_cons, Bool.and_eq_true] at hnz
    simp only [reqsOk, Bool.and_eq_true, List.all_eq_true] at hreq
    have hnzs : ∀ f ∈ nz, 0 < (applySets e.sets s).ints f := by
      intro f hf
      exact (applySets_nonneg _ _ _ hnz.1 (Int.le_of_lt (hs f hf))).2 (hs f hf)
    by_cases hp : cEval σ c = true
    · have hpr : presentRows σ ((c, r, e) :: rest) = (r, e) :: presentRows σ rest := by simp [presentRows, hp]
      rw [hpr]
      simp only [List.map_cons, runMain, applyAll, List.foldl_cons]
      have hreqs : ∀ f ∈ e.reqs, s.ints f ≠ 0 := by
        intro f hf
        have := hs f (by simpa using hreq.1 f hf)
        omega
      rw [stepTok_eff r e s hre hreqs]
      exact ih (applySets e.sets s) (nzNext c e nz) hrest hnz.2 hreq.2 (by
        intro f hf
        rcases mem_nzNext hf with hf | ⟨-, q, hq, rfl, hqs⟩
        · exact hnzs f hf
        · exact applySets_pos _ _ _ hnz.1 ⟨q, hq, rfl, .inl hqs⟩)
    · have hpr : presentRows σ ((c, r, e) :: rest) = presentRows σ rest := by simp [presentRows, hp]
      rw [hpr]
      have hreq' : reqsOk rest nz = true := by
        cases c with
        | tt => simp [cEval, BExpr.eval] at hp
        | _ => exact hreq.2
      exact ih s nz hrest hnz.2 hreq' hs

end Opts
