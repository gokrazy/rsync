import RsyncModel.Gen.Pure
/-! # The sender's sliding read window (`internal/sender/fileio.go`, `mapStruct.ptr`)

`Gen.Pure.ptr` is the translation of the source (regenerated on every run; only the final read loop
is the hand model `Go.readLoop`). Proved here, for every window state satisfying the invariant,
every file and every request inside the file: `ptr` returns exactly the requested bytes of the
file, never an error and never a panic (no slice out of range, no read past the end of the file),
and re-establishes the invariant. -/
namespace MapFile
open Go
abbrev Bytes := List UInt8

/-- the window invariant: the first `pLen` bytes of the buffer are the file's bytes at `pOffset` -/
structure Inv (ms : Gen.Pure.mapStruct) (file : Bytes) : Prop where
  size : ms.fileSize = (file.length : Int)
  cap : (ms.window.length : Int) = ms.pSize
  off0 : 0 ≤ ms.pOffset
  len0 : 0 ≤ ms.pLen
  lenCap : ms.pLen ≤ ms.pSize
  inFile : ms.pOffset + ms.pLen ≤ ms.fileSize
  content : ms.window.take ms.pLen.toNat = (file.drop ms.pOffset.toNat).take ms.pLen.toNat

/-- the initial state `mapFile` creates -/
theorem inv_init (file : Bytes) (dw : Int) : Inv ⟨file.length, 0, 0, [], 0, 0, dw⟩ file := by
  constructor <;> simp

/-- `Inv.content` with variables for the fields of `ms` -/
def Holds (w file : Bytes) (off n : Int) : Prop := w.take n.toNat = fileSlice file off n

theorem Inv.holds {ms : Gen.Pure.mapStruct} {file : Bytes} (inv : Inv ms file) :
    Holds ms.window file ms.pOffset ms.pLen := inv.content

theorem Holds.zero (w file : Bytes) (off : Int) : Holds w file off 0 := rfl

theorem Holds.slice {w file : Bytes} {off n lo k o : Int} (h : Holds w file off n) (hn : n ≤ w.length)
    (h0 : 0 ≤ off) (hlo : 0 ≤ lo) (hk : 0 ≤ k) (hle : lo + k ≤ n) (ho : off + lo = o) :
    slice w lo (lo + k) = .ok (fileSlice file o k) := by
  have hle' : lo.toNat + k.toNat ≤ n.toNat := Int.toNat_add hlo hk ▸ Int.toNat_le_toNat hle
  rw [slice_ok hlo (Int.le_add_of_nonneg_right hk) (Int.le_trans hle hn), Int.add_comm lo, Int.add_sub_cancel, ← List.take_drop_take w hle', h,
    fileSlice, List.take_drop_take _ hle', List.drop_drop, ← Int.toNat_add h0 hlo, ho]
  rfl

theorem Holds.copy {dst src file : Bytes} {off n : Int} (h : Holds src file off n) (hn : n.toNat ≤ src.length)
    (hs : src.length ≤ dst.length) : Holds (copy dst src) file off n := by
  rw [Holds, copy_short hs, List.take_append_of_le_length hn]
  exact h

theorem holds_copy_fileSlice {dst file : Bytes} {off n : Int} (h0 : 0 ≤ off) (hf : off + n ≤ file.length)
    (hd : n ≤ dst.length) : Holds (copy dst (fileSlice file off n)) file off n := by
  have hl := fileSlice_length h0 hf
  rw [Holds, copy_short (by omega), List.take_left' hl]

theorem Holds.read {w file : Bytes} {off ro rsz : Int} (h : Holds w file off ro) (h0 : 0 ≤ off) (hro : 0 ≤ ro)
    (hrsz : 0 ≤ rsz) (hw : ro + rsz ≤ w.length) (hf : off + (ro + rsz) ≤ file.length) :
    ∃ w', readLoop file w (off + ro) ro rsz = .ok (w', off + ro + rsz) ∧ w'.length = w.length ∧
      Holds w' file off (ro + rsz) := by
  have hl := fileSlice_length h0 hf
  refine ⟨_, readLoop_ok hro hw (by omega) (by omega), ?_, ?_⟩
  all_goals rw [h, ← List.append_assoc, fileSlice_append h0 hro hrsz]
  · rw [List.length_append, hl, List.length_drop]
    omega
  · exact List.take_left' hl

theorem ptr_hit (ms : Gen.Pure.mapStruct) (file : Bytes) (offset : Int) (l : Int32) (inv : Inv ms file)
    (hl : 0 < l.toInt) (hit : ms.pOffset ≤ offset ∧ offset + l.toInt ≤ ms.pOffset + ms.pLen) :
    Gen.Pure.ptr ms offset l file = .ok ((file.drop offset.toNat).take l.toInt.toNat, ms) := by
  unfold Gen.Pure.ptr
  simp only [beq_iff_eq, decide_eq_true_eq, Bool.and_eq_true]
  rw [if_neg (by omega), if_neg (by omega), if_pos hit,
    inv.holds.slice (inv.cap ▸ inv.lenCap) inv.off0 (by omega) (by omega) (by omega)
      (o := offset) (by omega)]
  rfl

theorem alignedLength_ge (n : Int) : n ≤ Gen.Pure.alignedLength n := by
  unfold Gen.Pure.alignedLength
  omega

theorem Inv.grow {ms : Gen.Pure.mapStruct} {file : Bytes} {ws : Int} (inv : Inv ms file) (h : ws > ms.pSize) :
    Inv { ms with window := copy (List.replicate ws.toNat 0) ms.window, pSize := ws } file := by
  have := inv.cap; have := inv.lenCap; have := inv.len0
  have hlen := List.length_replicate (n := ws.toNat) (a := (0 : UInt8))
  exact ⟨inv.size, by simp only [copy_length, hlen]; omega, inv.off0, inv.len0, Int.le_trans inv.lenCap (Int.le_of_lt h),
    inv.inFile, inv.holds.copy (by omega) (by omega)⟩

/-- request that needs a new window: plan (alignment, clamping to the end of the file), grow,
keep the overlap with the old window, read the rest from the file, slice. Each step is a `bind`,
taken by `Go.bind_spec` with what the rest of the proof needs to know of its result. -/
theorem ptr_miss (ms : Gen.Pure.mapStruct) (file : Bytes) (offset : Int) (l : Int32) (inv : Inv ms file)
    (hl : 0 < l.toInt) (h0 : 0 ≤ offset) (hin : offset + l.toInt ≤ (file.length : Int))
    (miss : ¬ (ms.pOffset ≤ offset ∧ offset + l.toInt ≤ ms.pOffset + ms.pLen)) :
    ∃ ms', Gen.Pure.ptr ms offset l file = .ok ((file.drop offset.toNat).take l.toInt.toNat, ms') ∧ Inv ms' file := by
  suffices h : ∃ p, Gen.Pure.ptr ms offset l file = .ok p ∧ p.1 = fileSlice file offset l.toInt ∧ Inv p.2 file by
    obtain ⟨⟨_, ms'⟩, he, rfl, hi⟩ := h
    exact ⟨ms', he, hi⟩
  unfold Gen.Pure.ptr
  simp only [beq_iff_eq, decide_eq_true_eq, Bool.and_eq_true, bne_iff_ne]
  rw [if_neg (by omega), if_neg (by omega), if_neg miss]
  have hf : 0 ≤ Gen.Pure.alignedOvershoot offset ∧ Gen.Pure.alignedOvershoot offset ≤ offset := by
    unfold Gen.Pure.alignedOvershoot
    omega
  generalize Gen.Pure.alignedOvershoot offset = fudge at hf ⊢
  have hsz := inv.size
  refine bind_spec (Q := fun w => offset - fudge + w ≤ ms.fileSize) ?_ ?_
  · split <;> exact ⟨_, rfl, by omega⟩
  intro w hw
  refine bind_spec (Q := fun ws => l.toInt + fudge ≤ ws ∧ offset - fudge + ws ≤ file.length) ?_ ?_
  · have := alignedLength_ge (l.toInt + fudge)
    split
    · split <;> exact ⟨_, rfl, by omega, by omega⟩
    · exact ⟨_, rfl, by omega, hsz ▸ hw⟩
  intro ws ⟨hw1, hw2⟩
  refine bind_spec (Q := fun ms1 => Inv ms1 file ∧ ws ≤ ms1.pSize ∧
      ¬ (ms1.pOffset ≤ offset ∧ offset + l.toInt ≤ ms1.pOffset + ms1.pLen)) ?_ ?_
  · split
    · rw [make_ok (by omega)]
      exact ⟨_, rfl, inv.grow ‹_›, Int.le_refl _, miss⟩
    · exact ⟨_, rfl, inv, by omega, miss⟩
  intro ms1 ⟨inv1, hcap, miss1⟩
  refine bind_spec (Q := fun (rs, ro, rsz, ms2) => rs = offset - fudge + ro ∧ 0 ≤ ro ∧ ro + rsz = ws ∧ 0 < rsz ∧
      ∃ w2, ms2 = { ms1 with window := w2 } ∧ w2.length = ms1.window.length ∧ Holds w2 file (offset - fudge) ro) ?_ ?_
  · have := inv1.cap; have := inv1.lenCap; have := inv1.len0; have := inv1.off0; have := inv1.inFile
    split
    · rw [inv1.holds.slice (by omega) inv1.off0 (by omega) (by omega) (by omega) (o := offset - fudge) (by omega),
        bind_ok]
      -- `0 < rsz` is where `miss1` is used: a new window ending where the old one ends would have been a hit
      exact ⟨_, rfl, by omega, by omega, by omega, by omega, _, rfl, copy_length _ _,
        holds_copy_fileSlice (by omega) (by omega) (by omega)⟩
    · exact ⟨_, rfl, by omega, Int.le_refl _, by omega, by omega, _, rfl, rfl, Holds.zero ..⟩
  rintro ⟨_, ro, rsz, _⟩ ⟨rfl, hro, hsum, hrsz, w2, rfl, hlen, hold⟩
  dsimp only
  rw [if_neg (by omega)]
  refine bind_spec (Q := fun ms3 => ms3 = { ms1 with window := w2, pFdOffset := offset - fudge + ro }) ?_ ?_
  · split
    · exact ⟨_, rfl, rfl⟩
    · next h => exact ⟨_, rfl, by rw [Decidable.of_not_not h]⟩
  rintro _ rfl
  dsimp only
  have hwl : (w2.length : Int) = ms1.pSize := hlen ▸ inv1.cap
  obtain ⟨w', hrl, hlen', hold'⟩ := hold.read (rsz := rsz) (by omega) hro (by omega) (by omega) (by omega)
  rw [hsum] at hold'
  rw [hrl, bind_ok, hold'.slice (by omega) (by omega) hf.1 (by omega) (by omega) (Int.sub_add_cancel ..),
    bind_ok]
  exact ⟨_, rfl, rfl, inv1.size, hlen' ▸ hwl, Int.sub_nonneg_of_le hf.2, (by omega : 0 ≤ ws), hcap,
    inv1.size ▸ hw2, hold'⟩

/-- **`mapStruct.ptr` returns exactly the requested bytes of the file**, for every window state
with `Inv`, every file, every offset and length inside the file; it neither fails nor panics
and keeps the invariant. (`l ≤ 0` is the caller's error path and is not claimed.) -/
theorem ptr_correct (ms : Gen.Pure.mapStruct) (file : Bytes) (offset : Int) (l : Int32) (inv : Inv ms file)
    (hl : 0 < l.toInt) (h0 : 0 ≤ offset) (hin : offset + l.toInt ≤ (file.length : Int)) :
    ∃ ms', Gen.Pure.ptr ms offset l file = .ok ((file.drop offset.toNat).take l.toInt.toNat, ms') ∧ Inv ms' file := by
  by_cases hit : ms.pOffset ≤ offset ∧ offset + l.toInt ≤ ms.pOffset + ms.pLen
  · exact ⟨ms, ptr_hit ms file offset l inv hl hit, inv⟩
  · exact ptr_miss ms file offset l inv hl h0 hin hit

def Req.ok (file : Bytes) (r : Int × Int32) : Prop := 0 < r.2.toInt ∧ 0 ≤ r.1 ∧ r.1 + r.2.toInt ≤ (file.length : Int)

def serve (file : Bytes) : Gen.Pure.mapStruct → List (Int × Int32) → Res (List Bytes)
  | _, [] => .ok []
  | ms, r :: rs => Go.bind (Gen.Pure.ptr ms r.1 r.2 file) fun (b, ms') => Go.bind (serve file ms' rs) fun bs => .ok (b :: bs)

/-- **every access pattern** (sliding forward, jumping back by `backup`, crossing the window any
number of times): the answers are the file's bytes, whatever came before -/
theorem serve_correct (file : Bytes) (reqs : List (Int × Int32)) : ∀ (ms : Gen.Pure.mapStruct), Inv ms file →
    (∀ r ∈ reqs, Req.ok file r) →
    serve file ms reqs = .ok (reqs.map fun r => (file.drop r.1.toNat).take r.2.toInt.toNat) := by
  induction reqs with
  | nil => intro ms _ _; rfl
  | cons r rs ih =>
    intro ms inv hall
    obtain ⟨h1, h2, h3⟩ := hall r (by simp)
    obtain ⟨ms', he, inv'⟩ := ptr_correct ms file r.1 r.2 inv h1 h2 h3
    simp only [serve, he, Go.bind_ok, List.map_cons]
    rw [ih ms' inv' (fun x hx => hall x (by simp [hx]))]
    rfl

end MapFile
