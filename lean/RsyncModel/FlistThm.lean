import RsyncModel.Flist
/-! Round trip: gokrazy's decoder reads every legal protocol-27 encoding of an entry (any inherited
prefix length, 1- or 4-byte name length, every `SAME_*` flag whenever it applies) back to exactly the
entry that was sent — and hence also gokrazy's own encoding. The decoder's stages are read as sequences
of field readers (`sameOr`, `optField`, `l1Part`, …); each reader inverts its encoder, and none gives back
input. `FlistTie` compares the same readers with the source. `index_agreement`: both sides give the
files the same numbers, whatever sort each uses, as long as names are distinct. -/
namespace Flist
open Wire

/-! ### The flag byte -/

theorem has_decide (a f : UInt8) : has a f = decide (a &&& f ≠ 0) := by
  rw [Bool.eq_iff_iff]; simp [has]

theorem has_or (a b f : UInt8) : has (a ||| b) f = (has a f || has b f) := by
  have : (a ||| b) &&& f = (a &&& f) ||| (b &&& f) := UInt8.toBitVec_inj.mp BitVec.and_or_distrib_right
  rw [Bool.eq_iff_iff]; simp only [has_decide, this]; simp

theorem has_ite (p : Prop) [Decidable p] (g f : UInt8) : has (if p then g else 0) f = (decide p && has g f) := by
  by_cases p <;> simp [*, has]

/-- `has` distributes over the `|||` of `flagsOf`; what is left is the table of the eight constants
tested against each other -/
theorem flagsOf_bits (c : Choice) :
    has (flagsOf c) fSameName = decide (c.l1 > 0) ∧ has (flagsOf c) fLongName = c.longName ∧
    has (flagsOf c) fSameTime = c.sameTime ∧ has (flagsOf c) fSameMode = c.sameMode ∧
    has (flagsOf c) fSameUid = c.sameUid ∧ has (flagsOf c) fSameGid = c.sameGid ∧
    has (flagsOf c) fSameRdev = c.sameRdev := by
  simp only [flagsOf, has_or, has_ite]
  simp +decide [has_decide]

/-! ### The decoder as a sequence of field readers -/

theorem ret_bind {α β : Type} (a : α) (f : α → Except Err β) : (Except.ok a >>= f) = f a := rfl

theorem ite_bind {α β : Type} (c : Prop) [Decidable c] (x y : Except Err α) (f : α → Except Err β) :
    (if c then x else y) >>= f = if c then x >>= f else y >>= f := by
  split <;> rfl

def rdLong (bs : Str) : Except Err (Int64 × Str) :=
  match decLong bs with
  | none => .error .short
  | some r => .ok r

/-- an int32 that the flag byte may declare the same as in the previous entry -/
def sameOr (same : Bool) (lastV : Int32) (bs : Str) : Except Err (Int32 × Str) :=
  if same then pure (lastV, bs) else rdI32 bs

/-- … and that is on the wire only if the option is on -/
def optField (on same : Bool) (lastV : Int32) (bs : Str) : Except Err (Int32 × Str) :=
  if on then sameOr same lastV bs else pure (0, bs)

def l1Part (same : Bool) (bs : Str) : Except Err (Nat × Str) :=
  if same then rdByte bs >>= fun p => pure (p.1.toNat, p.2) else pure (0, bs)

def l2Part (long : Bool) (bs : Str) : Except Err (Int × Str) :=
  if long then rdI32 bs >>= fun p => pure (p.1.toInt, p.2) else rdByte bs >>= fun p => pure ((p.1.toNat : Int), p.2)

def nameTail (last : Entry) (l1 : Nat) (l2 : Int) (bs : Str) : Except Err (Str × Str) :=
  if l2 < 0 ∨ l2 ≥ (pathMax : Int) - l1 then throw .overflow else
    takeN l2.toNat bs >>= fun p =>
      pure (PathClean.clean (last.name.take l1 ++ List.replicate (l1 - last.name.length) 0 ++ p.1), p.2)

def linkPart (on : Bool) (bs : Str) : Except Err (Str × Str) :=
  if on then rdI32 bs >>= fun p =>
    if p.1 < 0 ∨ p.1.toInt ≥ (pathMax : Int) then throw .badLink else takeN p.1.toInt.toNat p.2
  else pure ([], bs)

def sumPart (on : Bool) (bs : Str) : Except Err (Str × Str) := if on then takeN 16 bs else pure ([], bs)

/-! The model's `do` blocks carry the rest of a stage into both branches of each `if`; `ite_bind` takes it out again. -/

theorem decName_eq (flags : UInt8) (last : Entry) (bs : Str) :
    decName flags last bs = (l1Part (has flags fSameName) bs >>= fun p =>
      l2Part (has flags fLongName) p.2 >>= fun q => nameTail last p.1 q.1 q.2) := by
  simp only [l1Part, l2Part, nameTail, ite_bind]
  rfl

theorem decBasic_eq (flags : UInt8) (last : Entry) (bs : Str) :
    decBasic flags last bs = (rdLong bs >>= fun a => sameOr (has flags fSameTime) last.mtime a.2 >>= fun b =>
      sameOr (has flags fSameMode) last.mode b.2 >>= fun c => pure ((a.1, b.1, c.1), c.2)) := by
  simp only [decBasic, rdLong, sameOr, ite_bind]
  cases decLong bs <;> rfl

theorem decIds_eq (o : Opts) (flags : UInt8) (last : Entry) (mode : Int32) (bs : Str) :
    decIds o flags last mode bs =
      (optField o.uid (has flags fSameUid) last.uid bs >>= fun a =>
       optField o.gid (has flags fSameGid) last.gid a.2 >>= fun b =>
       optField (hasRdev o mode) (has flags fSameRdev) last.rdev b.2 >>= fun c => pure ((a.1, b.1, c.1), c.2)) := by
  simp only [optField, ite_bind]
  rfl

theorem decExtra_eq (o : Opts) (mode : Int32) (bs : Str) :
    decExtra o mode bs = (linkPart (o.links && isLink mode) bs >>= fun a =>
      sumPart o.checksum a.2 >>= fun b => pure ((a.1, b.1), b.2)) := by
  simp only [linkPart, sumPart, ite_bind]
  rfl

theorem decodeEntry_eq (o : Opts) (flags : UInt8) (last : Entry) (bs : Str) :
    decodeEntry o flags last bs = (decName flags last bs >>= fun a => decBasic flags last a.2 >>= fun b =>
      decIds o flags last b.1.2.2 b.2 >>= fun c => decExtra o b.1.2.2 c.2 >>= fun d =>
      pure (⟨a.1, b.1.1, b.1.2.1, b.1.2.2, c.1.1, c.1.2.1, c.1.2.2, d.1.1, d.1.2⟩, d.2)) := rfl

/-! ### Each reader against its encoder -/

theorem rdI32_enc (v : Int32) (r : Str) : rdI32 (encI32 v ++ r) = .ok (v, r) := by
  simp [rdI32, decI32_encI32]

theorem rdLong_enc (v : Int64) (r : Str) : rdLong (encLong v ++ r) = .ok (v, r) := by
  simp [rdLong, decLong_encLong]

theorem takeN_append (xs r : Str) : takeN xs.length (xs ++ r) = .ok (xs, r) := by
  simp [takeN]

theorem i32OfNat_toInt (n : Nat) (h : n < 2147483648) : (i32OfNat n).toInt = n :=
  Int32.toInt_ofInt_of_le (by omega) (by omega)

theorem pathMax_val : pathMax = 4096 := by decide

theorem sameOr_enc (same : Bool) (lastV v : Int32) (r : Str) (h : same = true → lastV = v) :
    sameOr same lastV ((if same then [] else encI32 v) ++ r) = .ok (v, r) := by
  cases same
  · exact rdI32_enc v r
  · rw [h rfl]; rfl

theorem optField_enc (on same : Bool) (lastV v : Int32) (r : Str) (h : same = true → lastV = v) :
    optField on same lastV ((if on && !same then encI32 v else []) ++ r) = .ok (if on then v else 0, r) := by
  cases on
  · rfl
  · cases same
    · exact rdI32_enc v r
    · rw [h rfl]; rfl

theorem l1Part_enc (n : Nat) (h : n ≤ 255) (r : Str) :
    l1Part (decide (n > 0)) ((if n > 0 then [UInt8.ofNat n] else []) ++ r) = .ok (n, r) := by
  unfold l1Part
  by_cases h0 : n > 0
  · simp only [h0, decide_true, if_true, List.cons_append, List.nil_append, rdByte, ret_bind,
      UInt8.toNat_ofNat_of_lt' (Nat.lt_succ_of_le h)]; rfl
  · obtain rfl : n = 0 := by omega
    rfl

theorem l2Part_enc (long : Bool) (n : Nat) (hs : long = false → n ≤ 255) (hn : n < 2147483648) (r : Str) :
    l2Part long ((if long then encI32 (i32OfNat n) else [UInt8.ofNat n]) ++ r) = .ok ((n : Int), r) := by
  unfold l2Part
  cases long
  · simp only [Bool.false_eq_true, if_false, List.cons_append, List.nil_append, rdByte, ret_bind,
      UInt8.toNat_ofNat_of_lt' (Nat.lt_succ_of_le (hs rfl))]; rfl
  · simp only [if_true, rdI32_enc, ret_bind, i32OfNat_toInt n hn]; rfl

theorem nameTail_enc (last : Entry) (l1 : Nat) (name r : Str) (hl : l1 ≤ last.name.length)
    (hp : last.name.take l1 = name.take l1) (hlen : name.length < pathMax) :
    nameTail last l1 ((name.length - l1 : Nat) : Int) (name.drop l1 ++ r) = .ok (PathClean.clean name, r) := by
  have hpm := pathMax_val
  have hn : l1 ≤ name.length := by
    have := congrArg List.length hp
    simp at this
    omega
  unfold nameTail
  rw [if_neg (by omega), Int.toNat_natCast, ← List.length_drop, takeN_append, ret_bind, hp,
    Nat.sub_eq_zero_of_le hl]
  simp [pure, Except.pure]

theorem linkPart_enc (on : Bool) (t r : Str) (ht : t.length < pathMax) :
    linkPart on ((if on then encI32 (i32OfNat t.length) ++ t else []) ++ r) = .ok (if on then t else [], r) := by
  have hpm := pathMax_val
  have hv := i32OfNat_toInt t.length (by omega)
  have hneg : ¬ (i32OfNat t.length < 0 ∨ (t.length : Int) ≥ (pathMax : Int)) := by
    rw [Int32.lt_iff_toInt_lt, hv, Int32.toInt_zero]; omega
  cases on
  · rfl
  · simp only [linkPart, if_true, List.append_assoc, rdI32_enc, ret_bind, hv, hneg, if_false, Int.toNat_natCast]
    exact takeN_append t r

theorem sumPart_enc (on : Bool) (s r : Str) (hs : on = true → s.length = 16) :
    sumPart on ((if on then s else []) ++ r) = .ok (if on then s else [], r) := by
  cases on
  · rfl
  · simp only [sumPart, if_true, ← hs rfl, takeN_append]

/-! ### No reader gives back input -/

def Within {α : Type} (n : Nat) (x : Except Err (α × Str)) : Prop := ∀ p, x = .ok p → p.2.length ≤ n

section
variable {α β : Type} {n : Nat} {bs : Str}

theorem Within.pure {a : α} {r : Str} (h : r.length ≤ n) : Within n (pure (a, r)) := by
  intro p hp; cases hp; exact h
theorem Within.throw {e : Err} : Within n (throw e : Except Err (α × Str)) := by
  intro p hp; cases hp
theorem Within.ite {c : Prop} [Decidable c] {x y : Except Err (α × Str)}
    (hx : Within n x) (hy : Within n y) : Within n (if c then x else y) := by
  split <;> assumption
theorem Within.bind {x : Except Err (α × Str)} {f : α × Str → Except Err (β × Str)}
    (hx : Within n x) (hf : ∀ p, p.2.length ≤ n → Within n (f p)) : Within n (x >>= f) := by
  cases x with
  | error e => intro p hp; cases hp
  | ok a => exact hf a (hx a rfl)

theorem drop_le (k : Nat) (h : bs.length ≤ n) : (bs.drop k).length ≤ n :=
  Nat.le_trans (List.length_drop ▸ Nat.sub_le _ _) h
theorem decI32_le {p : Int32 × Str} (h : decI32 bs = some p) : p.2.length ≤ bs.length := by
  unfold decI32 at h
  split at h <;> cases h
  exact drop_le 4 (Nat.le_refl _)
theorem decI64raw_le {p : Int64 × Str} (h : decI64raw bs = some p) : p.2.length ≤ bs.length := by
  unfold decI64raw at h
  split at h <;> cases h
  exact drop_le 8 (Nat.le_refl _)
theorem decLong_le {p : Int64 × Str} (h : decLong bs = some p) : p.2.length ≤ bs.length := by
  unfold decLong at h
  split at h
  · cases h
  next hd =>
    split at h
    · cases h; exact decI32_le hd
    · exact Nat.le_trans (decI64raw_le h) (decI32_le hd)

variable (h : bs.length ≤ n) {o : Opts} {flags : UInt8} {last : Entry} {mode v : Int32} {on same : Bool}
include h

theorem rdByte_within : Within n (rdByte bs) := by
  cases bs with
  | nil => exact .throw
  | cons b r => exact .pure (Nat.le_of_succ_le h)
theorem takeN_within {k : Nat} : Within n (takeN k bs) :=
  .ite .throw (.pure (drop_le k h))
theorem rdI32_within : Within n (rdI32 bs) := by
  unfold rdI32
  cases hd : decI32 bs with
  | none => exact .throw
  | some r => exact .pure (Nat.le_trans (decI32_le hd) h)
theorem rdLong_within : Within n (rdLong bs) := by
  unfold rdLong
  cases hd : decLong bs with
  | none => exact .throw
  | some r => exact .pure (Nat.le_trans (decLong_le hd) h)
theorem sameOr_within : Within n (sameOr same v bs) :=
  .ite (.pure h) (rdI32_within h)
theorem optField_within : Within n (optField on same v bs) :=
  .ite (sameOr_within h) (.pure h)

theorem decName_within : Within n (decName flags last bs) :=
  decName_eq .. ▸
    .bind (.ite (.bind (rdByte_within h) fun _ h => .pure h) (.pure h)) fun _ h =>
    .bind (.ite (.bind (rdI32_within h) fun _ h => .pure h) (.bind (rdByte_within h) fun _ h => .pure h)) fun _ h =>
    .ite .throw (.bind (takeN_within h) fun _ h => .pure h)
theorem decBasic_within : Within n (decBasic flags last bs) :=
  decBasic_eq .. ▸
    .bind (rdLong_within h) fun _ h => .bind (sameOr_within h) fun _ h => .bind (sameOr_within h) fun _ h => .pure h
theorem decIds_within : Within n (decIds o flags last mode bs) :=
  decIds_eq .. ▸
    .bind (optField_within h) fun _ h => .bind (optField_within h) fun _ h => .bind (optField_within h) fun _ h => .pure h
theorem decExtra_within : Within n (decExtra o mode bs) :=
  decExtra_eq .. ▸
    .bind (.ite (.bind (rdI32_within h) fun _ h => .ite .throw (takeN_within h)) (.pure h)) fun _ h =>
    .bind (.ite (takeN_within h) (.pure h)) fun _ h => .pure h
theorem decodeEntry_within : Within n (decodeEntry o flags last bs) :=
  .bind (decName_within h) fun _ h => .bind (decBasic_within h) fun _ h => .bind (decIds_within h) fun _ h =>
    .bind (decExtra_within h) fun _ h => .pure h
end

/-! ### Entries -/

/-- when a `SAME_*` choice is legal for this entry after `last` -/
structure ChoiceOk (o : Opts) (c : Choice) (last e : Entry) : Prop where
  l1_le : c.l1 ≤ 255
  l1_last : c.l1 ≤ last.name.length
  l1_name : c.l1 ≤ e.name.length
  prefix_eq : last.name.take c.l1 = e.name.take c.l1
  short_ok : c.longName = false → e.name.length - c.l1 ≤ 255
  name_lt : e.name.length < pathMax
  time_eq : c.sameTime = true → last.mtime = e.mtime
  mode_eq : c.sameMode = true → last.mode = e.mode
  uid_eq : c.sameUid = true → last.uid = e.uid
  gid_eq : c.sameGid = true → last.gid = e.gid
  rdev_eq : c.sameRdev = true → last.rdev = e.rdev

/-- the entry as the receiver can know it: fields that the options do not put on the wire are zero -/
def project (o : Opts) (e : Entry) : Entry :=
  { e with
    uid := if o.uid then e.uid else 0
    gid := if o.gid then e.gid else 0
    rdev := if hasRdev o e.mode then e.rdev else 0
    target := if o.links && isLink e.mode then e.target else []
    sum := if o.checksum then e.sum else [] }

/-- **gokrazy's decoder reads every legal protocol-27 encoding of an entry**: whatever prefix length a
conforming sender shares with the previous name, whether it uses the one-byte or the four-byte name
length, and whichever `SAME_*` flags it sets when the value repeats, the entry that comes out is the
entry that was sent (fields the options keep off the wire are zero). -/
theorem decode_refEncode (o : Opts) (c : Choice) (last e : Entry) (rest : Str)
    (ok : ChoiceOk o c last e) (hclean : PathClean.clean e.name = e.name)
    (htl : e.target.length < pathMax) (hsum : o.checksum = true → e.sum.length = 16) :
    decodeEntry o (flagsOf c) last ((refEncode o c e).tail ++ rest) = .ok (project o e, rest) := by
  obtain ⟨hn, hl, ht, hm, hu, hg, hr⟩ := flagsOf_bits c
  have hpm := pathMax_val
  have hnl := ok.name_lt
  -- the decoder as one sequence of readers, the encoding as one sequence of fields; then reader by reader
  unfold refEncode encTail
  simp only [decodeEntry_eq, decName_eq, decBasic_eq, decIds_eq, decExtra_eq, bind_assoc, pure_bind,
    List.cons_append, List.nil_append, List.tail_cons, List.append_assoc]
  rw [hn, hl, ht, hm, hu, hg, hr,
    l1Part_enc _ ok.l1_le, ret_bind, l2Part_enc _ _ ok.short_ok (by omega), ret_bind,
    nameTail_enc _ _ _ _ ok.l1_last ok.prefix_eq hnl, hclean, ret_bind,
    rdLong_enc, ret_bind, sameOr_enc _ _ _ _ ok.time_eq, ret_bind, sameOr_enc _ _ _ _ ok.mode_eq, ret_bind,
    optField_enc _ _ _ _ _ ok.uid_eq, ret_bind, optField_enc _ _ _ _ _ ok.gid_eq, ret_bind,
    optField_enc _ _ _ _ _ ok.rdev_eq, ret_bind,
    linkPart_enc _ _ _ htl, ret_bind, sumPart_enc _ _ _ hsum, ret_bind]
  rfl

/-- gokrazy's own encoding is one of the legal ones (long name, nothing shared) -/
def gokrChoice (e : Entry) : Choice := ⟨0, true, false, false, false, false, false, e.name == [46]⟩

theorem gokrEncode_eq_ref (o : Opts) (e : Entry) : gokrEncode o e = refEncode o (gokrChoice e) e := by
  unfold gokrEncode refEncode gokrChoice flagsOf
  by_cases h : e.name = [46] <;> simp [h]

theorem gokrChoice_ok (o : Opts) (last e : Entry) (hlen : e.name.length < pathMax) : ChoiceOk o (gokrChoice e) last e := by
  constructor <;> simp [gokrChoice, hlen]

/-- **gokrazy decodes what gokrazy encodes.** -/
theorem decode_gokrEncode (o : Opts) (last e : Entry) (rest : Str) (hlen : e.name.length < pathMax)
    (hclean : PathClean.clean e.name = e.name) (htl : e.target.length < pathMax)
    (hsum : o.checksum = true → e.sum.length = 16) :
    decodeEntry o (flagsOf (gokrChoice e)) last ((gokrEncode o e).tail ++ rest) = .ok (project o e, rest) := by
  rw [gokrEncode_eq_ref]
  exact decode_refEncode o (gokrChoice e) last e rest (gokrChoice_ok o last e hlen) hclean htl hsum

/-! ### Lists -/

/-- a whole list is legally encoded: each entry's choices are legal with respect to the (decoded)
previous entry, no flag byte is 0 (that would terminate the list), names are clean and fit -/
def Chain (o : Opts) : Entry → List (Choice × Entry) → Prop
  | _, [] => True
  | last, (c, e) :: r =>
    ChoiceOk o c last e ∧ flagsOf c ≠ 0 ∧ PathClean.clean e.name = e.name ∧ e.target.length < pathMax ∧
      (o.checksum = true → e.sum.length = 16) ∧ Chain o (project o e) r

def encodeList (o : Opts) (ces : List (Choice × Entry)) : Str :=
  ces.flatMap (fun ce => refEncode o ce.1 ce.2) ++ [0]

theorem refEncode_cons (o : Opts) (c : Choice) (e : Entry) :
    refEncode o c e = flagsOf c :: (refEncode o c e).tail := by
  unfold refEncode; simp

theorem gokrEncode_head (o : Opts) (e : Entry) : gokrEncode o e = flagsOf (gokrChoice e) :: (gokrEncode o e).tail := by
  rw [gokrEncode_eq_ref]
  exact refEncode_cons o _ e

/-- **Every valid protocol-27 encoding of a file list is decoded into exactly the entries that were
sent**, in wire order. -/
theorem decodeList_encodeList (o : Opts) (ces : List (Choice × Entry)) (last : Entry) (rest : Str) (fuel : Nat)
    (hf : ces.length < fuel) (h : Chain o last ces) :
    decodeList o last fuel (encodeList o ces ++ rest) = .ok (ces.map (fun ce => project o ce.2), rest) := by
  induction ces generalizing last fuel with
  | nil =>
    cases fuel with
    | zero => omega
    | succ f => simp [encodeList, decodeList]
  | cons ce ces ih =>
    obtain ⟨c, e⟩ := ce
    obtain ⟨hok, hnz, hcl, htl, hsum, hrest⟩ := h
    cases fuel with
    | zero => simp at hf
    | succ f =>
      have e1 : encodeList o ((c, e) :: ces) ++ rest =
          flagsOf c :: ((refEncode o c e).tail ++ (encodeList o ces ++ rest)) := by
        simp only [encodeList, List.flatMap_cons, List.append_assoc]
        rw [refEncode_cons]; simp
      rw [e1, decodeList, if_neg (by simpa using hnz), decode_refEncode o c last e _ hok hcl htl hsum, ret_bind]
      simp only [ih _ f (by simpa using hf) hrest]
      rfl

/-! ### Numbering -/

theorem _root_.List.inj_on_of_nodup_map {α β : Type} {f : α → β} {l : List α} (hnd : (l.map f).Nodup) {a b : α} (ha : a ∈ l)
    (hb : b ∈ l) (h : f a = f b) : a = b := by
  obtain ⟨i, hi, rfl⟩ := List.getElem_of_mem ha
  obtain ⟨j, hj, rfl⟩ := List.getElem_of_mem hb
  obtain rfl : i = j := (List.getElem_inj (h₀ := by simpa) (h₁ := by simpa) hnd).mp (by simpa using h)
  rfl

/-- **Both sides number the files identically**: two name-sorted arrangements of the same entries
are the same list whenever names are distinct — whatever (unstable) sorting algorithm each side
uses; so an index sent by one side denotes the same file on the other. `le` is any antisymmetric
order on names (Go's bytewise string comparison). -/
theorem index_agreement {le : Str → Str → Prop} (anti : ∀ a b, le a b → le b a → a = b)
    (l s r : List Entry) (hs : s.Perm l) (hr : r.Perm l)
    (hss : s.Pairwise (fun x y => le x.name y.name)) (hrs : r.Pairwise (fun x y => le x.name y.name))
    (hnd : (l.map (·.name)).Nodup) : s = r := by
  apply List.Perm.eq_of_pairwise (le := fun x y => le x.name y.name) _ hss hrs (hs.trans hr.symm)
  intro a b ha hb h1 h2
  exact List.inj_on_of_nodup_map hnd (hs.subset ha) (hr.subset hb) (anti _ _ h1 h2)

end Flist
