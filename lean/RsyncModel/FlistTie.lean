import RsyncModel.PureTie
import RsyncModel.FlistThm
/-! # The file list as the source reads and writes it
(receiver/flist.go `receiveFileEntry`, `ReceiveFileList`; sender/flist.go `walkFn`)

`Gen.Pure.receiveFileEntry` is regenerated from /repo on every run (the connection's input is a byte list
that is consumed; the entry under construction and the previous entry are their fields), together with
the same statements cut into consecutive ranges (`rfeNameLen`, `rfeNameBody`, `rfeBasic`, `rfeIds`,
`rfeExtra`). Proved: the whole function is the composition of its ranges, each range computes the
corresponding stage of the model's `Flist.decodeEntry`, hence the source's decoder *is* the model's
decoder — same entry, same unread rest, an error exactly where the model has one, never a panic —
for every flag byte, previous entry, option set and input. The model's stages are taken as the sequences of
field readers of `FlistThm` (`Flist.decName_eq`, …), and `toRes` is pushed through them down to the primitive reads.

Around the decoder, `recvListLoop_tied`: the source's list loop is the model's `decodeList`. For the sender,
`sendEntry_tied` and `sendEntryFlags_tied`: for an object of a given `Kind` (what the file system says it is) `walkFn`
writes the flag byte and the fields that the model's encoder writes for the entry `entryOfStat`, for every option set. -/
namespace FlistTie
open Go Wire Flist

/-- the model's result type read as the translated code's: every decoding error is `err` -/
def toRes {α : Type} : Except Err α → Res α
  | .ok a => .ok a
  | .error _ => .err

section
variable {α β : Type}
theorem toRes_ok (a : α) : toRes (.ok a) = .ok a := rfl
theorem toRes_pure (a : α) : toRes (pure a) = .ok a := rfl
theorem toRes_throw (e : Err) : toRes (throw e : Except Err α) = .err := rfl
theorem toRes_bind (x : Except Err α) (f : α → Except Err β) : toRes (x >>= f) = Go.bind (toRes x) fun a => toRes (f a) := by
  cases x <;> rfl
theorem toRes_map (f : α → β) (x : Except Err α) : toRes (x.map f) = Go.bind (toRes x) fun a => .ok (f a) := by
  cases x <;> rfl
theorem toRes_ite (c : Prop) [Decidable c] (x y : Except Err α) : toRes (if c then x else y) = if c then toRes x else toRes y := by
  split <;> rfl
theorem toRes_ne_panic (x : Except Err α) : toRes x ≠ .panic := by
  cases x <;> simp [toRes]
end

theorem toRes_rdByte (inp : Str) : toRes (rdByte inp) = Go.readByte inp := by
  cases inp <;> rfl
theorem toRes_rdI32 (inp : Str) : toRes (rdI32 inp) = Go.readI32 inp := by
  unfold rdI32 Go.readI32; cases decI32 inp <;> rfl
theorem toRes_takeN (n : Nat) (inp : Str) : toRes (takeN n inp) = Go.readFull inp n := by
  rw [Go.readFull_natCast, takeN, toRes_ite]; rfl

theorem readInt64_tied (inp : Bytes) :
    Gen.Pure.ReadInt64 inp = match decLong inp with
      | none => .err
      | some (v, rest) => .ok (v.toInt, rest) := by
  unfold Gen.Pure.ReadInt64 decLong Go.readI32
  cases decI32 inp with
  | none => rfl
  | some p =>
    simp only [Go.bind_ok]
    split
    · simp
    · unfold Go.readI64 decI64raw
      split <;> simp

theorem readInt64_rdLong (inp : Str) :
    Gen.Pure.ReadInt64 inp = Go.bind (toRes (rdLong inp)) fun p => .ok (p.1.toInt, p.2) := by
  rw [readInt64_tied, rdLong]; cases decLong inp <;> rfl

/-- the source tests the flag byte after widening it to 16 bits; `k` is the mask as the source has it -/
theorem maskEq (f m : UInt8) (k : UInt16) (h : m.toUInt16 = k) : ((f.toUInt16 &&& k) != 0) = has f m := by
  rw [← h, ← UInt8.toUInt16_and]
  exact congrArg not (decide_eq_decide.mpr (UInt8.toUInt16_inj (b := 0)))

theorem rfeBasic_tied (flags : UInt8) (last : Entry) (inp : Str) (L0 : Int) (T0 M0 : Int32) :
    Gen.Pure.rfeBasic flags.toUInt16 inp last.mtime last.mode L0 T0 M0 =
      toRes ((decBasic flags last inp).map fun p => (p.1.1.toInt, p.1.2.1, p.1.2.2, p.2)) := by
  simp only [Gen.Pure.rfeBasic, decBasic_eq, sameOr, maskEq flags fSameTime 128 rfl, maskEq flags fSameMode 2 rfl, readInt64_rdLong, Go.bind_ok_pair,
    toRes_map, toRes_bind, toRes_ite, toRes_pure, toRes_rdI32, Go.bind_assoc, Go.bind_ok]

theorem fmt_eq (m k : Int32) : ((m &&& 61440) == k) = ((m.toUInt32.toNat &&& 61440) == k.toUInt32.toNat) :=
  decide_eq_decide.mpr (by rw [← Int32.toBitVec_inj, ← BitVec.toNat_inj, Int32.toBitVec_and, BitVec.toNat_and]; rfl)
theorem isLink_eq (m : Int32) : isLink m = ((m &&& 61440) == 40960) := (fmt_eq m 40960).symm
theorem isDev_eq (m : Int32) : isDev m = (((m &&& 61440) == 8192) || ((m &&& 61440) == 24576)) := by
  rw [fmt_eq, fmt_eq]; rfl
theorem isSpecial_eq (m : Int32) : isSpecial m = (((m &&& 61440) == 4096) || ((m &&& 61440) == 49152)) := by
  rw [fmt_eq, fmt_eq]; rfl

theorem rfeIds_tied (o : Opts) (flags : UInt8) (last : Entry) (mode : Int32) (inp : Str) :
    Gen.Pure.rfeIds flags.toUInt16 inp last.uid last.gid last.rdev o.uid o.gid o.devices o.specials mode 0 0 0 =
      toRes ((decIds o flags last mode inp).map fun p => (p.1.1, p.1.2.1, p.1.2.2, p.2)) := by
  simp only [Gen.Pure.rfeIds, decIds_eq, optField, sameOr, hasRdev, isDev_eq, isSpecial_eq, maskEq flags fSameUid 8 rfl,
    maskEq flags fSameGid 16 rfl, maskEq flags fSameRdev 4 rfl, Go.bind_ok_pair,
    toRes_map, toRes_bind, toRes_ite, toRes_pure, toRes_rdI32, Go.bind_assoc, Go.bind_ok]

theorem rfeExtra_tied (o : Opts) (mode : Int32) (inp n : Str) (L : Int) (T M U G R : Int32) :
    Gen.Pure.rfeExtra inp ((mode &&& 61440) == 40960) o.links o.checksum n L T M U G R [] [] =
      toRes ((decExtra o mode inp).map fun p => (n, L, T, M, U, G, R, p.1.1, p.1.2, p.2)) := by
  simp only [Gen.Pure.rfeExtra, decExtra_eq, linkPart, sumPart, isLink_eq, show (pathMax : Int) = 4096 from rfl,
    Go.make_checked, Int32.reduceToInt, List.length_replicate, Int.cast_ofNat_Int, Go.bind_ok_pair, toRes_map, toRes_bind,
    toRes_ite, toRes_pure, toRes_throw, toRes_rdI32, toRes_takeN, Go.bind_assoc, Go.bind_ok, Go.bind_ite_err,
    Go.bind_ite (c := (o.links && mode &&& 61440 == 40960) = true)]

theorem sub_min_of_le {n N : Nat} (s : Nat) (h : n ≤ N) : n - min N s = n - s := by
  rcases Nat.le_total N s with h1 | h1
  · rw [Nat.min_eq_left h1, Nat.sub_eq_zero_of_le h, Nat.sub_eq_zero_of_le (Nat.le_trans h h1)]
  · rw [Nat.min_eq_right h1]

theorem copy_replicate_take (N n : Nat) (src : List UInt8) (h : n ≤ N) :
    (Go.copy (List.replicate N 0) src).take n = src.take n ++ List.replicate (n - src.length) 0 := by
  rw [Go.copy, List.take_append, List.take_take, List.length_take, List.length_replicate, List.drop_replicate,
    List.take_replicate, Nat.sub_min_sub_right, Nat.min_eq_left h, sub_min_of_le _ h]

/-- `io.ReadFull(readb)` where `readb` aliases the last `m` bytes of `b`: afterwards `b` is its first `n` bytes and what was read -/
theorem readTail {b readb : Str} {n m : Nat} (hb : b.length = n + m) (hr : readb.length = m) (inp : Str) :
    (Go.bind (Go.readFull inp readb.length) fun x => Res.ok (PathClean.clean (b.take (b.length - x.1.length) ++ x.1), x.2)) =
      Go.bind (Go.readFull inp m) fun x => Res.ok (PathClean.clean (b.take n ++ x.1), x.2) := by
  rw [hr, hb, Go.readFull_natCast]
  split
  · rfl
  next h => rw [Go.bind_ok, Go.bind_ok, List.length_take, Nat.min_eq_left (Nat.le_of_not_lt h), Nat.add_sub_cancel]

/-- the name's bytes: bounds check, `make`, `copy` of the inherited prefix, `ReadFull` into the tail, `Clean` -/
theorem rfeNameBody_tied (last : Entry) (n1 : Nat) (l2 : Int) (inp f0 : Str) :
    Gen.Pure.rfeNameBody n1 l2 inp last.name f0 = toRes (nameTail last n1 l2 inp) := by
  simp only [Gen.Pure.rfeNameBody, nameTail, show (pathMax : Int) = 4096 from rfl, Bool.or_eq_true, decide_eq_true_eq,
    toRes_ite, toRes_throw, toRes_bind, toRes_pure, toRes_takeN]
  refine ite_congr rfl (fun _ => rfl) fun h => ?_
  obtain ⟨m, rfl⟩ := Int.eq_ofNat_of_zero_le (Int.not_lt.mp fun h0 => h (Or.inl h0))
  simp only [← Int.natCast_add, Go.make_natCast, Go.bind_ok, Int.toNat_natCast]
  rcases Nat.eq_zero_or_pos n1 with rfl | hn
  · rw [if_neg (by simp), Go.bind_ok, readTail (n := 0) (m := m) (by simp) (by simp)]
    simp
  · rw [if_pos (by simpa using hn), Go.slice_from (by simp), Go.bind_ok, Go.bind_ok,
      readTail (n := n1) (m := m) (by simp) (by simp), copy_replicate_take _ _ _ (Nat.le_add_right _ _)]

theorem rfeName_eq (flags : UInt16) (inp lastName f0 : Str) :
    Gen.Pure.rfeName flags inp lastName f0 =
      Go.bind (Gen.Pure.rfeNameLen flags inp) fun (l1, l2, inp) => Gen.Pure.rfeNameBody l1 l2 inp lastName f0 := by
  rw [Gen.Pure.rfeNameLen, Go.bind_assoc]
  simp only [Go.bind_assoc, Go.bind_ok]
  rfl

theorem rfeName_tied (flags : UInt8) (last : Entry) (inp fName0 : Str) :
    Gen.Pure.rfeName flags.toUInt16 inp last.name fName0 = toRes (decName flags last inp) := by
  simp only [rfeName_eq, Gen.Pure.rfeNameLen, decName_eq, l1Part, l2Part, maskEq flags fSameName 32 rfl,
    maskEq flags fLongName 64 rfl, ← rfeNameBody_tied last _ _ _ fName0,
    Int.cast_ofNat_Int, toRes_bind, toRes_ite, toRes_pure, toRes_rdI32, toRes_rdByte, Go.bind_assoc, Go.bind_ok, Go.bind_ite]

theorem whole_eq_stages (flags : UInt16) (inp lastName : List UInt8) (lastModTime lastMode lastUid lastGid lastRdev : Int32)
    (pu pg pl pd ps ac : Bool) (fName : List UInt8) (fLength : Int) (fModTime fMode fUid fGid fRdev : Int32) (fLink fSum : List UInt8) :
    Gen.Pure.receiveFileEntry flags inp lastName lastModTime lastMode lastUid lastGid lastRdev pu pg pl pd ps ac
        fName fLength fModTime fMode fUid fGid fRdev fLink fSum =
      Go.bind (Gen.Pure.rfeName flags inp lastName fName) fun (fName, inp) =>
      Go.bind (Gen.Pure.rfeBasic flags inp lastModTime lastMode fLength fModTime fMode) fun (fLength, fModTime, fMode, inp) =>
      Go.bind (Gen.Pure.rfeIds flags inp lastUid lastGid lastRdev pu pg pd ps fMode fUid fGid fRdev) fun (fUid, fGid, fRdev, inp) =>
      Gen.Pure.rfeExtra inp ((fMode &&& 61440) == 40960) pl ac fName fLength fModTime fMode fUid fGid fRdev fLink fSum := by
  -- only the right side is rewritten, into what the left side unfolds to: `simp` on both sides costs twice as much
  conv => rhs; simp only [Gen.Pure.rfeName, Gen.Pure.rfeBasic, Gen.Pure.rfeIds, Go.bind_assoc, Go.bind_ok, Go.bind_ite_err]
  rfl

/-- **The source's entry decoder is the model's**: `receiveFileEntry(flags, last)` on any input, for any
previous entry and option set, yields the model's entry and unread rest, or an error where the model
has one. (The entry under construction starts as the zero `File`.) -/
theorem receiveFileEntry_tied (o : Opts) (flags : UInt8) (last : Entry) (inp : Str) :
    Gen.Pure.receiveFileEntry flags.toUInt16 inp last.name last.mtime last.mode last.uid last.gid last.rdev
        o.uid o.gid o.links o.devices o.specials o.checksum [] 0 0 0 0 0 0 [] [] =
      toRes ((decodeEntry o flags last inp).map fun p =>
        (p.1.name, p.1.size.toInt, p.1.mtime, p.1.mode, p.1.uid, p.1.gid, p.1.rdev, p.1.target, p.1.sum, p.2)) := by
  simp only [whole_eq_stages, rfeName_tied, rfeBasic_tied, rfeIds_tied, rfeExtra_tied, decodeEntry_eq,
    toRes_map, toRes_bind, toRes_pure, Go.bind_assoc, Go.bind_ok]

def recOf (e : Entry) : Go.FileRec := ⟨e.name, e.size.toInt, e.mtime, e.mode, e.uid, e.gid, e.rdev, e.target, e.sum⟩

theorem listLoop_eq (o : Opts) : ∀ (fuel : Nat) (inp : Str) (last : Entry) (acc : List Go.FileRec), inp.length < fuel →
    Go.bind (Go.loopB fuel (Gen.Pure.recvListLoop_body0 o.checksum o.devices o.gid o.links o.specials o.uid)
        (inp, last.name, last.mtime, last.mode, last.uid, last.gid, last.rdev, acc)) (fun s => Go.Res.ok (s.2.2.2.2.2.2.2, s.1))
      = toRes ((decodeList o last fuel inp).map fun p => (acc ++ p.1.map recOf, p.2)) := by
  intro fuel
  induction fuel with
  | zero => intro inp last acc h; exact absurd h (Nat.not_lt_zero _)
  | succ n ih =>
    intro inp last acc hlen
    rw [Go.loopB, Gen.Pure.recvListLoop_body0]
    cases inp with
    | nil => rfl
    | cons f r =>
      simp only [Go.readByte, Go.bind_ok, decodeList, receiveFileEntry_tied]
      by_cases hz : (f == 0) = true
      · simp only [hz, if_true, Go.bind_ok, Bool.false_eq_true, if_false, toRes_map, toRes_ok, List.map_nil, List.append_nil]
      · simp only [hz, Bool.false_eq_true, if_false, toRes_map, toRes_bind, toRes_pure, Go.bind_assoc, Go.bind_ok, if_true]
        cases hdec : decodeEntry o f last r with
        | error e => rfl
        | ok p =>
          simp only [toRes_ok, Go.bind_ok]
          refine (ih p.2 p.1 (acc ++ [recOf p.1]) (Nat.lt_of_le_of_lt (decodeEntry_within (Nat.le_refl _) p hdec)
            (Nat.lt_of_succ_lt_succ hlen))).trans ?_
          simp only [toRes_map, List.map_cons, List.append_assoc, List.singleton_append]

/-- **The source's list loop is the model's `decodeList`**: same entries in the same order, same unread rest, an
error exactly where the model has one, never a panic; `len(input)+1` iterations suffice because every iteration
consumes at least the flag byte. -/
theorem recvListLoop_tied (o : Opts) (inp : Str) :
    Gen.Pure.recvListLoop inp [] [] 0 0 0 0 0 o.uid o.gid o.links o.devices o.specials o.checksum =
      toRes ((decodeList o zeroEntry (inp.length + 1) inp).map fun p => (p.1.map recOf, p.2)) :=
  listLoop_eq o (inp.length + 1) inp zeroEntry [] (Nat.lt_succ_self _)

/-! The sender's entry encoder (sender/flist.go `walkFn`). -/

theorem fmt_or (perm c : Int32) (hp : perm &&& 61440 = 0) (hc : c &&& 61440 = c) : (perm ||| c) &&& 61440 = c := by
  rw [← Int32.toBitVec_inj] at hp hc ⊢
  simp only [Int32.toBitVec_and, Int32.toBitVec_or] at hp hc ⊢
  rw [BitVec.and_or_distrib_right, hp, hc]
  simp

/-- what the file system says an entry is (Go's `fs.FileMode` type bits; a character device has both device bits) -/
inductive Kind | dir | regular | symlink | charDev | blockDev | pipe | socket | other
deriving DecidableEq, Repr

def Kind.typeBits : Kind → Int32
  | .dir => 16384 | .regular => 32768 | .symlink => 40960 | .charDev => 8192
  | .blockDev => 24576 | .pipe => 4096 | .socket => 49152 | .other => 0

/-- the mode word of a `Kind` tells the model what the source's `isDev`, `isSpecial`, `isSymlink` are -/
theorem kind_bits (k : Kind) {perm : Int32} (hp : perm &&& 61440 = 0) :
    isDev (perm ||| k.typeBits) = (k == .charDev || k == .blockDev) ∧
    isSpecial (perm ||| k.typeBits) = (k == .pipe || k == .socket) ∧
    isLink (perm ||| k.typeBits) = (k == .symlink) := by
  rw [isDev_eq, isSpecial_eq, isLink_eq, fmt_or perm _ hp (by cases k <;> decide)]
  cases k <;> decide

theorem ite_append {α : Type} (c : Prop) [Decidable c] (x y : List α) : (if c then x ++ y else x) = x ++ if c then y else [] := by
  split <;> simp
theorem ite_append₂ {α : Type} (c : Prop) [Decidable c] (x y z : List α) :
    (if c then x ++ y ++ z else x) = x ++ if c then y ++ z else [] := by
  rw [List.append_assoc, ite_append]
theorem bind_ite_append {β : Type} (c : Bool) (x y : Str) (f : Str → Res β) :
    Go.bind (if c then Go.Res.ok (x ++ y) else Go.Res.ok x) f = f (x ++ (if c then y else [])) := by
  rw [Go.bind_ite_ok, ite_append]

/-- the entry the sender describes for an object of kind `k` -/
def entryOfStat (k : Kind) (name : Str) (size : Int64) (mtime perm uid gid rdev : Int32) (target fileSum : Str) : Entry :=
  ⟨name, if k == .dir then 4096 else size, mtime, perm ||| k.typeBits, uid, gid, rdev, target,
   if k == .regular then fileSum else List.replicate 16 0⟩

/-- every `if` of the options appends to the buffer or leaves it, so the source's buffer is one concatenation, as the
model's is; what is left differs only in the `Kind`, and is computed for each -/
theorem sendEntry_tied (o : Opts) (k : Kind) (flags : UInt8) (name : Str) (size : Int64) (mtime perm uid gid rdev : Int32)
    (target fileSum fec0 : Str) (hp : perm &&& 61440 = 0) :
    Gen.Pure.sendEntry flags name size.toInt mtime perm (k == .dir) (k == .regular) (k == .symlink) (k == .charDev)
        (k == .charDev || k == .blockDev) (k == .pipe) (k == .socket) uid gid rdev target fileSum
        o.uid o.gid o.links o.devices o.specials o.checksum fec0 =
      .ok ([flags] ++ encI32 (i32OfNat name.length) ++ name ++ encLong (if k == .dir then 4096 else size) ++ encI32 mtime ++
        encI32 (perm ||| k.typeBits) ++ encTail o (entryOfStat k name size mtime perm uid gid rdev target fileSum) false false false) := by
  obtain ⟨hd, hs, hl⟩ := kind_bits k hp
  simp only [Gen.Pure.sendEntry, entryOfStat, encTail, hasRdev, hd, hs, hl, i32OfNat, Go.bind_ite_ok (α := Str),
    Go.bind_ite_ok (α := Int), ite_append, ite_append₂, apply_ite Int64.ofInt, Int64.ofInt_toInt, Bool.not_false, Bool.and_true, ← List.append_assoc]
  cases k
  case other => simp only [Kind.typeBits, Int32.or_zero]; rfl
  all_goals rfl

/-- the flag byte the sender computes: always a long name, `XMIT_TOP_DIR` on `.` -/
theorem sendEntryFlags_tied (name : Str) :
    Gen.Pure.sendEntryFlags (name == [46]) = (if name == [46] then fLongName ||| fTopDir else fLongName) := by
  cases name == [46] <;> rfl

end FlistTie
