import RsyncModel.Walk
import RsyncModel.Utf8
import RsyncModel.Filter
/-! `deleteFiles` (receiver/do.go) and `findInFileList` (receiver/flist.go): the guard
conditions, the binary search over the name-sorted list, and the walk of `Walk.delWalk`. -/
namespace Delete
open Walk

abbrev Str := List UInt8

/-- `sort.Search(n, f)`: bisection for the smallest index in `[0, n)` at which `f` is true -/
def search (f : Nat → Bool) (lo hi : Nat) : Nat :=
  if h : lo < hi then
    let m := (lo + hi) / 2
    if f m then search f lo m else search f (m + 1) hi
  else lo
termination_by hi - lo
decreasing_by all_goals omega

/-- Go string comparison `a >= b`: bytewise lexicographic -/
def geStr (a b : Str) : Bool := !(a < b)

/-- `findInFileList(fileList, name)` -/
def findInFileList (names : List Str) (name : Str) : Bool :=
  let i := search (fun i => geStr (names.getD i []) name) 0 names.length
  i < names.length && names.getD i [] == name

/-- path components joined with '/' (what `fs.WalkDir` passes to the callback) -/
def joined : Path → Str
  | [] => [46]      -- "."
  | [a] => a
  | a :: b :: r => a ++ 47 :: joined (b :: r)

/-- The walk as `fs.WalkDir(rt.DestRoot.FS(), …)` really proceeds: descending into a *kept*
directory needs `ReadDir(path)` on the `fs.FS`, which `io/fs.ValidPath` refuses when the path is not
valid UTF-8 — the callback then gets the error and `deleteFiles` aborts (known finding D26). Returns
the removed roots so far and whether the walk aborted. -/
def delWalkV (listed : Path → Bool) : List Ent → List Path × Bool
  | [] => ([], false)
  | e :: rest =>
    if listed e.path then
      if e.isDir && !Utf8.valid (joined e.path) then ([], true)
      else delWalkV listed rest
    else
      let r := delWalkV listed (rest.dropWhile (fun x => under e.path x.path))
      (e.path :: r.1, r.2)
termination_by l => l.length
decreasing_by
  · simp
  · have := (List.dropWhile_sublist (l := rest) (fun x => under e.path x.path)).length_le
    simp; omega

/-- the walk with the protection of excluded entries (receiver/do.go after the D9 repair): an entry
that is not in the list but that the user's rules exclude is left alone — a protected directory
with everything below it -/
def delWalkP (listed : Path → Bool) (protect : Path → Bool → Bool) : List Ent → List Path
  | [] => []
  | e :: rest =>
    if listed e.path then delWalkP listed protect rest
    else if protect e.path e.isDir then
      if e.isDir then delWalkP listed protect (rest.dropWhile (fun x => under e.path x.path))
      else delWalkP listed protect rest
    else e.path :: delWalkP listed protect (rest.dropWhile (fun x => under e.path x.path))
termination_by l => l.length
decreasing_by
  · simp
  · have := (List.dropWhile_sublist (l := rest) (fun x => under e.path x.path)).length_le
    simp; omega
  · simp
  · have := (List.dropWhile_sublist (l := rest) (fun x => under e.path x.path)).length_le
    simp; omega

/-- the same as the code runs it (UTF-8 restriction on kept directories it descends into) -/
def delWalkPV (listed : Path → Bool) (protect : Path → Bool → Bool) : List Ent → List Path × Bool
  | [] => ([], false)
  | e :: rest =>
    if listed e.path then
      if e.isDir && !Utf8.valid (joined e.path) then ([], true)
      else delWalkPV listed protect rest
    else if protect e.path e.isDir then
      if e.isDir then delWalkPV listed protect (rest.dropWhile (fun x => under e.path x.path))
      else delWalkPV listed protect rest
    else
      let r := delWalkPV listed protect (rest.dropWhile (fun x => under e.path x.path))
      (e.path :: r.1, r.2)
termination_by l => l.length
decreasing_by
  · simp
  · have := (List.dropWhile_sublist (l := rest) (fun x => under e.path x.path)).length_le
    simp; omega
  · simp
  · have := (List.dropWhile_sublist (l := rest) (fun x => under e.path x.path)).length_le
    simp; omega

/-- `deleteFiles`: nothing on sender I/O errors, nothing without a top-level "." entry, nothing in a
dry run; otherwise the walk removes every entry the binary search does not find. -/
def deleteFiles (ioErrors : Nat) (dryRun : Bool) (names : List Str) (tree : List Ent) : List Path :=
  if ioErrors > 0 then []
  else if !(names.contains [46]) then []
  else if dryRun then []
  else delWalk (fun p => findInFileList names (joined p)) tree

/-- the same with the UTF-8 restriction of the real walk and the protection by the user's rules:
removed roots and `true` when it aborts with an error -/
def deleteFilesV (ioErrors : Nat) (dryRun : Bool) (names : List Str) (rules : List Filter.Rule) (tree : List Ent) : List Path × Bool :=
  if ioErrors > 0 then ([], false)
  else if !(names.contains [46]) then ([], false)
  else if dryRun then
    -- the dry-run walk still descends into what it would delete (and aborts the same way) but removes nothing
    ([], (delWalkPV (fun _ => true) (fun _ _ => false) tree).2)
  else delWalkPV (fun p => findInFileList names (joined p)) (fun p d => Filter.excluded rules (joined p) d) tree

end Delete
