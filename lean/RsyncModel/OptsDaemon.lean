import RsyncModel.OptsRun
/-! What the parser can do with an **arbitrary** command line that starts `--server --daemon`
(the only shape an anonymous SSH session may run): the daemon-mode re-parse either fails or ends
with `am_daemon` and `am_server` set, so `maincmd.Main` enters the daemon protocol. Proved for
every argument list by an invariant over the token fold; the tables enter through Boolean checks. -/
namespace Opts
open Gen.OptTable

def actsKeep (f : Field) : List Act → Bool
  | [] => true
  | a :: rest =>
    (match a with
     | .set g v => g != f || v != 0
     | .setIfZero g v => g != f || v != 0
     | .incr g => g != f
     | .other _ => false
     | .daemonMode => false
     | .retOk => false
     | _ => true) && actsKeep f rest

def rowKeeps (f : Field) (r : Row) : Bool :=
  r.kind != .other &&
  match r.target with
  | none => true
  | some g => g != f || r.kind == .none || (r.kind == .val && r.val != 0) || r.kind == .str

def daemonKeeps (f : Field) : Bool :=
  daemonAllRows.all (rowKeeps f) && daemonCases.all (fun c => actsKeep f c.2) && actsKeep f daemonCasesDefault

theorem set_keeps (s : St) (f g : Field) (v : Int) (h : s.ints f ≠ 0) (hg : g ≠ f ∨ v ≠ 0) : (s.set g v).ints f ≠ 0 := by
  simp only [St.set]
  by_cases e : f = g
  · subst e
    rcases hg with hg | hg
    · exact absurd rfl hg
    · simpa using hg
  · simpa [e] using h

def ActRes.good (f : Field) : ActRes → Prop
  | .next s' => s'.ints f ≠ 0
  | .daemon _ => False
  | .stop (.ok _) => False
  | .stop .unmodelled => False
  | .stop _ => True

theorem runActs_keeps (f : Field) (arg : Str) (acts : List Act) (s : St) (hk : actsKeep f acts = true) (h : s.ints f ≠ 0) :
    (runActs arg acts s).good f := by
  induction acts generalizing s with
  | nil => simpa [runActs, ActRes.good] using h
  | cons a rest ih =>
    simp only [actsKeep, Bool.and_eq_true] at hk
    obtain ⟨ha, hrest⟩ := hk
    cases a with
    | set g v =>
      simp only [Bool.or_eq_true, bne_iff_ne, ne_eq] at ha
      exact ih (s.set g v) hrest (set_keeps s f g v h ha)
    | setIfZero g v =>
      simp only [Bool.or_eq_true, bne_iff_ne, ne_eq] at ha
      simp only [runActs]
      by_cases hz : s.ints g = 0
      · rw [if_pos hz]; exact ih _ hrest (set_keeps s f g v h ha)
      · rw [if_neg hz]; exact ih _ hrest h
    | incr g =>
      simp only [bne_iff_ne, ne_eq] at ha
      exact ih _ hrest (set_keeps s f g _ h (Or.inl ha))
    | requireNonzero g =>
      simp only [runActs]
      by_cases hz : s.ints g = 0
      · rw [if_pos hz]; trivial
      · rw [if_neg hz]; exact ih _ hrest h
    | setStr g => exact ih _ hrest h
    | rule p => exact ih _ hrest h
    | ruleChecked =>
      simp only [runActs]
      split
      · exact ih _ hrest h
      · trivial
    | words w =>
      have key : ∀ known, (if wordsExit known (splitComma arg) then .stop .exit else runActs arg rest s).good f := by
        intro known
        split
        · trivial
        · exact ih _ hrest h
      cases w <;> exact key _
    | version => exact ih _ hrest h
    | daemonMode => simp at ha
    | exit => simp [runActs, ActRes.good]
    | fail => simp [runActs, ActRes.good]
    | retOk => simp at ha
    | other src => simp at ha

theorem lookupCase_mem (code : Int) (cs : List (Int × List Act)) (a : List Act) (h : lookupCase code cs = some a) :
    ∃ c ∈ cs, c.2 = a := by
  induction cs with
  | nil => cases h
  | cons c rest ih =>
    rw [lookupCase] at h
    split at h
    · exact ⟨c, List.mem_cons_self, Option.some.inj h⟩
    · exact (ih h).imp fun _ hc => ⟨List.mem_cons_of_mem _ hc.1, hc.2⟩

theorem store_keeps (f : Field) (r : Row) (arg : Str) (s s1 : St) (hr : rowKeeps f r = true) (h : s.ints f ≠ 0)
    (hs : store r arg s = some s1) : s1.ints f ≠ 0 := by
  simp only [rowKeeps, Bool.and_eq_true, bne_iff_ne, ne_eq] at hr
  obtain ⟨hko, ht⟩ := hr
  unfold store at hs
  cases htg : r.target with
  | none => simp [htg] at hs; subst hs; exact h
  | some g =>
    cases hkd : r.kind with
    | none => simp [htg, hkd] at hs; subst hs; exact set_keeps s f g 1 h (.inr (by decide))
    | val => simp [htg, hkd] at hs ht; subst hs; exact set_keeps s f g _ h ht
    | int => simp [htg, hkd] at hs ht; obtain ⟨v, _, rfl⟩ := hs; exact set_keeps s f g v h (.inl ht)
    | str => simp [htg, hkd] at hs; subst hs; simpa [St.setStr] using h
    | other => exact absurd hkd hko

def Res.daemonGood (f : Field) : Res → Prop
  | .ok s' => s'.ints f ≠ 0 ∧ s'.ints .f_am_daemon = 1
  | .unmodelled => False
  | _ => True

theorem runDaemon_keeps (f : Field) (hf : f ≠ .f_am_daemon) (hd : daemonKeeps f = true) (ts : List LTok) (s : St)
    (hts : ∀ t ∈ ts, t.from daemonAllRows) (h : s.ints f ≠ 0) :
    (runDaemon ts s).daemonGood f := by
  simp only [daemonKeeps, Bool.and_eq_true, List.all_eq_true] at hd
  obtain ⟨⟨hR, hC⟩, hD⟩ := hd
  induction ts generalizing s with
  | nil =>
    simp only [runDaemon, Res.daemonGood]
    exact ⟨set_keeps s f _ 1 h (Or.inl (Ne.symm hf)), by simp [St.set]⟩
  | cons t rest ih =>
    have hts' : ∀ t ∈ rest, t.from daemonAllRows := fun x hx => hts x (List.mem_cons_of_mem _ hx)
    have ht := hts t List.mem_cons_self
    cases t with
    | pos a => simpa [runDaemon] using ih s hts' h
    | bad => simp [runDaemon, stepTok, Res.daemonGood]
    | unmodelled =>
      obtain ⟨r, hr, hk⟩ := ht
      simpa [rowKeeps, hk] using hR r hr
    | opt r arg =>
      simp only [runDaemon, stepTok]
      cases hs : store r arg s with
      | none => simp [Res.daemonGood]
      | some s1 =>
        have h1 := store_keeps f r arg s s1 (hR r ht.1) h hs
        simp only []
        by_cases hsp : isSpecial r = true
        · simp only [hsp, if_true]
          have hk : actsKeep f ((lookupCase r.val daemonCases).getD daemonCasesDefault) = true := by
            cases hl : lookupCase r.val daemonCases with
            | none => simpa using hD
            | some a =>
              obtain ⟨c, hc, hc2⟩ := lookupCase_mem _ _ _ hl
              simpa [hc2] using hC c hc
          have := runActs_keeps f arg _ s1 hk h1
          cases hra : runActs arg ((lookupCase r.val daemonCases).getD daemonCasesDefault) s1 with
          | next s2 => rw [hra] at this; simpa using ih s2 hts' this
          | daemon s2 => rw [hra] at this; exact absurd this id
          | stop x =>
            rw [hra] at this
            cases x with
            | ok s2 => exact absurd this id
            | err => simp [Res.daemonGood]
            | exit => simp [Res.daemonGood]
            | unmodelled => exact absurd this id
        · simp only [hsp, Bool.false_eq_true, if_false]
          simpa using ih s1 hts' h1

end Opts
