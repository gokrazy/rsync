import RsyncModel.Gen.FlistConds
import RsyncModel.Flist
/-! What the regenerated wire schedules of a file-list entry (and of the list's tail) must satisfy:
the ordered list of wire operations is the expected one on each side, every sender guard is the
condition of the model encoder, and — with the flags gokrazy's sender sets and the receiver's
options resolved through either `receiver.TransferOpts` literal — every receiver guard is
equivalent to the guard of the sender step it consumes, for **all** option sets and entry kinds
(`BExpr.equivB`, sound by `BExpr.equivB_sound`). -/
namespace FlistCondsSpec
open Gen.FlistConds Gen.OptTable

def labels (l : List Step) : List String := l.map (·.label)

def guardOf (l : List Step) (label : String) : BExpr FAtom :=
  match l.find? (·.label == label) with
  | some s => s.guard
  | none => .atom (.other ("missing step " ++ label))

/-- the flags gokrazy's sender puts into the status byte: `XMIT_LONG_NAME` always, never a SAME_* flag -/
def gokrFlag (name : String) : Bool := name == "XMIT_LONG_NAME"

/-- resolve the receiver's atoms: option fields through a TransferOpts literal, flags as gokrazy sets them -/
def resolve (m : List (TField × Acc)) : FAtom → BExpr FAtom
  | .topt f => match m.find? (·.1 == f) with
    | some p => .atom (.opt p.2)
    | none => .atom (.other "TransferOpts field not filled from an accessor")
  | .flag n => if gokrFlag n then .tt else .ff
  | a => .atom a

def recvGuard (m : List (TField × Acc)) (l : List Step) (label : String) : BExpr FAtom :=
  BExpr.subst (resolve m) (guardOf l label)

/-! expected schedules (hand-written from the protocol description; a reordered, dropped or added
wire operation on either side changes the regenerated list) -/

def expectedSender : List String :=
  ["WriteByte(flags)", "WriteInt32(int32(len(name)))", "WriteString(name)", "WriteInt64(size)",
   "WriteInt32(int32(info.ModTime().Unix()))", "WriteInt32(mode)", "WriteInt32(uid)", "WriteInt32(gid)", "WriteInt32(rdev)",
   "WriteInt32(int32(len(target)))", "WriteString(target)", "WriteString(string(checksum))", "conn.WriteString(s.fec.String())"]

def expectedReceiver : List String :=
  ["ReadByte->l", "ReadInt32->l", "ReadByte->l", "ReadFull(readb)", "ReadInt64->length", "ReadInt32->modTime", "ReadInt32->mode",
   "ReadInt32->uid", "ReadInt32->gid", "ReadInt32->rdev", "ReadInt32->length", "ReadFull(b)", "ReadFull(f.Checksum[:])"]

/-- (sender step, receiver step that consumes it) -/
def pairing : List (String × String) :=
  [("WriteString(name)", "ReadFull(readb)"), ("WriteInt64(size)", "ReadInt64->length"),
   ("WriteInt32(int32(info.ModTime().Unix()))", "ReadInt32->modTime"), ("WriteInt32(mode)", "ReadInt32->mode"),
   ("WriteInt32(uid)", "ReadInt32->uid"), ("WriteInt32(gid)", "ReadInt32->gid"), ("WriteInt32(rdev)", "ReadInt32->rdev"),
   ("WriteInt32(int32(len(target)))", "ReadInt32->length"), ("WriteString(target)", "ReadFull(b)"),
   ("WriteString(string(checksum))", "ReadFull(f.Checksum[:])")]

def entryAgrees (m : List (TField × Acc)) : Bool :=
  pairing.all fun p => BExpr.equivB (guardOf senderEntry p.1) (recvGuard m receiverEntry p.2)

/-- the name length: the sender writes an int32; the receiver reads the inherited-length byte never,
the int32 always, the one-byte length never (the three `l` reads, in source order) -/
def nameLenAgrees (m : List (TField × Acc)) : Bool :=
  match receiverEntry.filter (fun s => s.label == "ReadByte->l" || s.label == "ReadInt32->l") with
  | [a, b, c] =>
    a.label == "ReadByte->l" && b.label == "ReadInt32->l" && c.label == "ReadByte->l" &&
    BExpr.equivB (BExpr.subst (resolve m) a.guard) .ff &&
    BExpr.equivB (BExpr.subst (resolve m) b.guard) (guardOf senderEntry "WriteInt32(int32(len(name)))") &&
    BExpr.equivB (BExpr.subst (resolve m) c.guard) .ff
  | _ => false

/-! the tail of the list: end marker, uid list, gid list, I/O error flag -/

def expectedSenderTail : List String :=
  ["WriteByte(endOfFileList)", "WriteInt32(uid)", "WriteByte(byte(len(name)))", "WriteString(name)", "WriteInt32(endOfSet)",
   "WriteInt32(gid)", "WriteByte(byte(len(name)))", "WriteString(name)", "WriteInt32(endOfSet)", "WriteInt32(ioErrors)", "Conn.WriteString(fec.String())"]

def expectedReceiverTail : List String := ["ReadByte->b", "receiveFileEntry", "RecvIdList", "ReadInt32->ioErrors"]
def expectedIdList : List String := ["recvIdMapping1->users", "recvIdMapping1->groups"]

/-- guards of the two `WriteInt32(endOfSet)` terminators, in order: uid list, gid list -/
def senderListGuards : List (BExpr FAtom) := (senderTail.filter (·.label == "WriteInt32(endOfSet)")).map (·.guard)

def tailAgrees (m : List (TField × Acc)) : Bool :=
  match senderListGuards, receiverIdList with
  | [su, sg], [ru, rg] =>
    let outer := recvGuard m receiverTail "RecvIdList"
    BExpr.equivB su (.and outer (BExpr.subst (resolve m) ru.guard)) &&
    BExpr.equivB sg (.and outer (BExpr.subst (resolve m) rg.guard)) &&
    -- every step of a list is under the same guard as its terminator
    (senderTail.filter (fun s => s.label == "WriteInt32(uid)" || s.label == "WriteInt32(gid)" || s.label == "WriteByte(byte(len(name)))" || s.label == "WriteString(name)")).all
      (fun s => BExpr.equivB s.guard su || BExpr.equivB s.guard sg) &&
    BExpr.equivB (guardOf senderTail "WriteByte(endOfFileList)") .tt &&
    BExpr.equivB (guardOf senderTail "WriteInt32(ioErrors)") .tt &&
    BExpr.equivB (recvGuard m receiverTail "ReadInt32->ioErrors") .tt
  | _, _ => false

def schedulesOk : Bool :=
  labels senderEntry == expectedSender && labels receiverEntry == expectedReceiver &&
  labels senderTail == expectedSenderTail && labels receiverTail == expectedReceiverTail && labels receiverIdList == expectedIdList

/-! the sender's guards are the model encoder's conditions (`Flist.encTail`) -/

def senderAtoms (o : Flist.Opts) (mode : Int32) : FAtom → Bool
  | .opt .PreserveUid => o.uid
  | .opt .PreserveGid => o.gid
  | .opt .PreserveLinks => o.links
  | .opt .PreserveDevices => o.devices
  | .opt .PreserveSpecials => o.specials
  | .opt .AlwaysChecksum => o.checksum
  | .isDev => Flist.isDev mode
  | .isSpecial => Flist.isSpecial mode
  | .isLink => Flist.isLink mode
  | _ => false

def expectedGuards : List (String × BExpr FAtom) :=
  [("WriteInt32(uid)", .atom (.opt .PreserveUid)), ("WriteInt32(gid)", .atom (.opt .PreserveGid)),
   ("WriteInt32(rdev)", .or (.and (.atom (.opt .PreserveDevices)) (.atom .isDev)) (.and (.atom (.opt .PreserveSpecials)) (.atom .isSpecial))),
   ("WriteInt32(int32(len(target)))", .and (.atom (.opt .PreserveLinks)) (.atom .isLink)),
   ("WriteString(target)", .and (.atom (.opt .PreserveLinks)) (.atom .isLink)),
   ("WriteString(string(checksum))", .atom (.opt .AlwaysChecksum)),
   ("WriteByte(flags)", .tt), ("WriteInt32(int32(len(name)))", .tt), ("WriteString(name)", .tt), ("WriteInt64(size)", .tt),
   ("WriteInt32(int32(info.ModTime().Unix()))", .tt), ("WriteInt32(mode)", .tt)]

def senderGuardsOk : Bool := expectedGuards.all fun p => BExpr.equivB (guardOf senderEntry p.1) p.2

theorem schedules_ok : schedulesOk = true := by
  simp only [schedulesOk, labels, senderEntry, receiverEntry, senderTail, receiverTail, receiverIdList, List.map_cons, List.map_nil,
    expectedSender, expectedReceiver, expectedSenderTail, expectedReceiverTail, expectedIdList, beq_self_eq_true, Bool.and_self]
theorem sender_guards_ok : senderGuardsOk = true := by decide +kernel
theorem entry_agrees : entryAgrees clientRecvOpts = true ∧ entryAgrees serverRecvOpts = true := by decide +kernel
theorem namelen_agrees : nameLenAgrees clientRecvOpts = true ∧ nameLenAgrees serverRecvOpts = true := by decide +kernel
theorem tail_agrees : tailAgrees clientRecvOpts = true ∧ tailAgrees serverRecvOpts = true := by decide +kernel

theorem sender_guard {p : String × BExpr FAtom} (hp : p ∈ expectedGuards) (σ : FAtom → Bool) :
    BExpr.eval σ (guardOf senderEntry p.1) = BExpr.eval σ p.2 :=
  BExpr.equivB_sound _ _ (List.all_eq_true.mp sender_guards_ok p hp) σ

/-- the sender writes the rdev field exactly when the model encoder does (likewise the other optional fields) -/
theorem sender_rdev_is_model (o : Flist.Opts) (mode : Int32) :
    BExpr.eval (senderAtoms o mode) (guardOf senderEntry "WriteInt32(rdev)") = Flist.hasRdev o mode := by
  -- the third row
  rw [sender_guard (p := ("WriteInt32(rdev)", _)) (.tail _ (.tail _ (.head _)))]
  simp [BExpr.eval, senderAtoms, Flist.hasRdev]

theorem sender_link_is_model (o : Flist.Opts) (mode : Int32) :
    BExpr.eval (senderAtoms o mode) (guardOf senderEntry "WriteString(target)") = (o.links && Flist.isLink mode) := by
  -- the fifth row
  rw [sender_guard (p := ("WriteString(target)", _)) (.tail _ (.tail _ (.tail _ (.tail _ (.head _)))))]
  simp [BExpr.eval, senderAtoms]

end FlistCondsSpec
