import RsyncModel.OptsRun
/-! The option-forwarding theorem: for **every** assignment of the accessors, the argument list
`ServerOptions` renders is parsed by the server-side parser (same tables) into a state whose
accessors are given by a table of Boolean formulas computed from the regenerated source tables.
What remains for a property is to compare those formulas with the expected ones (`BExpr.equivB`).
The last step of the parser, `finish`, comes in through `finish_inv` and `finish_ok` (what a successful `finish` says,
and when it succeeds); `finish_tail_pinned` ties `finish` to the text of the tail of `ParseArguments`. -/
namespace Opts
open Gen.OptTable

/-- an item `look` does not know as a set-only option is left out; `tabOk` says that there is none -/
def mkTab {β : Type} (look : β → Option Row) (l : List (BExpr CAtom × β)) : CTab :=
  l.filterMap fun p => (look p.2).bind fun r => (rowEff r).map fun e => (p.1, r, e)

def tabOk {β : Type} (look : β → Option Row) (l : List (BExpr CAtom × β)) : Bool :=
  l.all fun p => ((look p.2).bind rowEff).isSome

theorem mkTab_rows {β : Type} (look : β → Option Row) (l : List (BExpr CAtom × β)) :
    ∀ q ∈ mkTab look l, rowEff q.2.1 = some q.2.2 := by
  intro q hq
  obtain ⟨p, _, hp⟩ := List.mem_filterMap.mp hq
  simp only [Option.bind_eq_some_iff, Option.map_eq_some_iff] at hp
  obtain ⟨r, _, e, he, rfl⟩ := hp
  exact he

theorem mkTab_spec {β : Type} (σ : Acc → Bool) (look : β → Option Row) (l : List (BExpr CAtom × β))
    (h : tabOk look l = true) :
    (present σ l).map look = ((presentRows σ (mkTab look l)).map (·.1)).map some := by
  induction l with
  | nil => rfl
  | cons p rest ih =>
    simp only [tabOk, List.all_cons, Bool.and_eq_true, Option.isSome_iff_exists, Option.bind_eq_some_iff] at h
    obtain ⟨⟨e, r, hr, he⟩, hrest⟩ := h
    have hm : mkTab look (p :: rest) = (p.1, r, e) :: mkTab look rest := by simp [mkTab, hr, he]
    have ih := ih hrest
    simp only [hm, present, presentRows, List.filter_cons] at ih ⊢
    split <;> simp [hr, ih]

/-- the table of everything `ServerOptions` can render, in the order it renders it -/
def fwdTab : CTab :=
  mkTab (longRow mainRows) (argItems preItems) ++ mkTab (shortRow mainRows) (letItems preItems) ++
    mkTab (longRow mainRows) (argItems postItems)

def allLetters : Str := (letItems preItems).map (·.2)

/-- last conjunct: no long option's name is a subsequence of the letters, so the letters argument is not taken for a long
option whichever letters are present -/
def lettersOk : Bool :=
  tabOk (longRow mainRows) (argItems preItems) && tabOk (shortRow mainRows) (letItems preItems) &&
  tabOk (longRow mainRows) (argItems postItems) &&
  hasHere && !allLetters.contains '=' && !allLetters.contains '-' &&
  mainRows.all (fun r => r.long.isEmpty || !(r.long.isSublist allLetters))

theorem presentRows_append (σ : Acc → Bool) (a b : CTab) : presentRows σ (a ++ b) = presentRows σ a ++ presentRows σ b := by
  simp [presentRows]

theorem lex_serverOptions (σ : Acc → Bool) (hl : lettersOk = true) :
    lex mainRows (serverOptions σ) = (presentRows σ fwdTab).map (fun p => .opt p.1 []) := by
  simp only [lettersOk, Bool.and_eq_true, Bool.not_eq_true', List.all_eq_true, Bool.or_eq_true] at hl
  obtain ⟨⟨⟨⟨⟨⟨ha, hb⟩, hc⟩, hhere⟩, heq⟩, hdash⟩, hlong⟩ := hl
  have heq : '=' ∉ allLetters := by simpa using heq
  have hdash : '-' ∉ allLetters := by simpa using hdash
  have a1 := mkTab_spec σ _ _ ha
  have b1 := mkTab_spec σ _ _ hb
  have c1 := mkTab_spec σ _ _ hc
  obtain ⟨ls, hlsd⟩ : ∃ ls, ls = present σ (letItems preItems) := ⟨_, rfl⟩
  have hsub : List.Sublist ls allLetters := hlsd ▸ List.Sublist.map _ List.filter_sublist
  have hL : lex mainRows ((if hasHere && !ls.isEmpty then ['-' :: ls] else []) ++ present σ (argItems postItems)) =
      (presentRows σ (mkTab (shortRow mainRows) (letItems preItems))).map (fun p => .opt p.1 []) ++
        lex mainRows (present σ (argItems postItems)) := by
    rw [← hlsd] at b1
    cases ls with
    | nil =>
      have : (presentRows σ (mkTab (shortRow mainRows) (letItems preItems))).map (·.1) = [] := by
        simpa using b1.symm
      simp [List.map_eq_nil_iff.mp this]
    | cons x xs =>
      have heq' : '=' ∉ x :: xs := fun e => heq (hsub.subset e)
      have hdash' : (x :: xs).head? ≠ some '-' := fun e => hdash (hsub.subset (by simp at e; simp [e]))
      have hfl : findLong mainRows (x :: xs) = none := by
        cases hf : findLong mainRows (x :: xs) with
        | none => rfl
        | some r =>
          obtain ⟨hr, hlr⟩ := findLong_some _ _ _ hf
          rcases hlong r hr with h | h
          · simp [hlr] at h
          · rw [hlr, List.isSublist_iff_sublist.mpr hsub] at h; cases h
      simp only [hhere, List.isEmpty_cons, Bool.not_false, Bool.and_self, if_true, List.cons_append, List.nil_append]
      rw [lex_cons mainRows _ _ _ fun n => lexArg_letters mainRows _ n _ (List.cons_ne_nil _ _) heq' hdash' hfl b1,
        List.map_map]; rfl
  unfold serverOptions fwdTab
  simp only []
  rw [← hlsd, List.append_assoc, lex_longs mainRows _ _ a1, hL, ← List.append_nil (present σ (argItems postItems)),
    lex_longs mainRows _ _ c1, presentRows_append, presentRows_append]
  simp [lex, lexN, Function.comp_def]

theorem cEval_equiv (σ : Acc → Bool) (e₁ e₂ : BExpr CAtom) (h : BExpr.equivB e₁ e₂ = true) : cEval σ e₁ = cEval σ e₂ :=
  BExpr.equivB_sound _ _ h _

def setFormula (t : CTab) (f : Field) : BExpr CAtom :=
  t.foldr (fun p acc => if setsField p.2.2 f then .or p.1 acc else acc) .ff

theorem eval_setFormula (σ : Acc → Bool) (t : CTab) (f : Field) :
    cEval σ (setFormula t f) = t.any (fun p => cEval σ p.1 && setsField p.2.2 f) := by
  induction t with
  | nil => rfl
  | cons p rest ih =>
    rw [setFormula, List.foldr_cons, List.any_cons, ← setFormula, ← ih]
    cases setsField p.2.2 f <;> simp [cEval, BExpr.eval]

theorem fwdTab_rows : ∀ q ∈ fwdTab, rowEff q.2.1 = some q.2.2 := by
  intro q hq
  simp only [fwdTab, List.mem_append] at hq
  rcases hq with (hq | hq) | hq <;> exact mkTab_rows _ _ q hq

def tablesOk : Bool :=
  lettersOk && allNonzero fwdTab && reqsOk fwdTab [] &&
  !fwdTab.any (fun p => setsField p.2.2 .f_human_readable) && decide (init.ints .f_human_readable ≤ 1)

/-- what `Opts.finish` was written from: the statements after the option loop of `ParseArguments` that touch the
fields it reads or writes (version and help exits, `xfer_dirs` from `recurse`, "`--delete` needs `-r`"). `list_only` has
no row in the tables in use, so the inner branch of the fourth statement always takes `else`. -/
def finishTailExpected : List String := [
  "if version_opt_cnt > 0 { return &ExitError{Code: 0, Output: version.Read()} }",
  "if opts.human_readable > 1 && len(args) == 1 { return &ExitError{Code: 0, Output: opts.Help()} }",
  "if opts.recurse != 0 { opts.xfer_dirs = 1 }",
  "if opts.xfer_dirs < 0 { if opts.list_only != 0 { opts.xfer_dirs = 1 } else { opts.xfer_dirs = 0 } }",
  "if opts.delete_mode != 0 && opts.recurse == 0 { return fmt.Errorf(\"--delete does not work without --recursive (-r)\") }"]

/-- **regenerated tie of `Opts.finish`**: the tail of `ParseArguments` reads as above on the current source (any other
text breaks this obligation; then `finish` has to be looked at again), and no table in use has a `list-only` row -/
theorem finish_tail_pinned :
    (Gen.OptTable.finishTail == finishTailExpected) = true ∧
    (mainRows ++ daemonAllRows).all (fun r => r.long != "list-only".toList) = true := by
  constructor
  · simp only [finishTail, finishTailExpected, beq_self_eq_true]
  · decide +kernel

theorem finish_inv (n : Nat) (s s' : St) (h : finish n s = .ok s') :
    (s.ints .f_delete_mode ≠ 0 → s.ints .f_recurse ≠ 0) ∧ ∀ f, f ≠ .f_xfer_dirs → s'.ints f = s.ints f := by
  by_cases hv : s.version = true
  · simp [finish, hv] at h
  by_cases hh : s.ints .f_human_readable > 1 ∧ n = 1
  · simp [finish, hv, hh] at h
  by_cases hd : s.ints .f_delete_mode ≠ 0 ∧ s.ints .f_recurse = 0
  · simp [finish, hv, hh, hd] at h
  simp only [finish, hv, hh, hd, Bool.false_eq_true, if_false, Res.ok.injEq] at h
  refine ⟨fun a b => hd ⟨a, b⟩, fun f hf => ?_⟩
  have key : ∀ (s0 : St) (v : Int), (s0.set .f_xfer_dirs v).ints f = s0.ints f := fun s0 v => by simp [St.set, hf]
  subst h
  split <;> split <;> simp only [key]

theorem finish_ok (n : Nat) (s : St) (hv : s.version = false) (hh : s.ints .f_human_readable ≤ 1)
    (hd : s.ints .f_delete_mode ≠ 0 → s.ints .f_recurse ≠ 0) :
    ∃ s', finish n s = .ok s' ∧ ∀ f, f ≠ .f_xfer_dirs → s'.ints f = s.ints f := by
  have hh' : ¬ (s.ints .f_human_readable > 1 ∧ n = 1) := fun h => by omega
  have hd' : ¬ (s.ints .f_delete_mode ≠ 0 ∧ s.ints .f_recurse = 0) := fun h => hd h.1 h.2
  have e : ∃ s', finish n s = .ok s' := by
    simp only [finish, hv, Bool.false_eq_true, if_false, hh', hd']; exact ⟨_, rfl⟩
  exact e.imp fun s' e => ⟨e, (finish_inv n s s' e).2⟩

/-- **forwarding**: whatever the client's accessors say, the server parses the rendered options to a
state in which every field is non-zero exactly when its formula holds -/
theorem parse_serverOptions (σ : Acc → Bool) (hok : tablesOk = true)
    (hdel : cEval σ (setFormula fwdTab .f_delete_mode) = true → cEval σ (setFormula fwdTab .f_recurse) = true) :
    ∃ s', parse (serverOptions σ) = .ok s' ∧
      ∀ f, f ≠ .f_xfer_dirs → init.ints f = 0 → ((s'.ints f != 0) = cEval σ (setFormula fwdTab f)) := by
  simp only [tablesOk, Bool.and_eq_true, Bool.not_eq_true', decide_eq_true_eq] at hok
  obtain ⟨⟨⟨⟨hl, hnz⟩, hq⟩, hhr⟩, hh1⟩ := hok
  have hlex := lex_serverOptions σ hl
  have hrun := runMain_present (serverOptions σ) σ fwdTab init [] fwdTab_rows hnz hq (by simp)
  obtain ⟨S, hS⟩ : ∃ S, S = applyAll (presentRows σ fwdTab) init := ⟨_, rfl⟩
  have key : ∀ f, init.ints f = 0 → (S.ints f ≠ 0 ↔ cEval σ (setFormula fwdTab f) = true) := fun f h0 => by
    rw [hS, applyAll_nz σ fwdTab init f hnz (by omega), eval_setFormula]; simp [h0]
  have hv : S.version = false := by rw [hS, applyAll_version]; rfl
  have hh : S.ints .f_human_readable ≤ 1 := by rw [hS, applyAll_other σ fwdTab init _ hhr]; exact hh1
  have hd : S.ints .f_delete_mode ≠ 0 → S.ints .f_recurse ≠ 0 := by
    rw [key _ (by decide), key _ (by decide)]; exact hdel
  obtain ⟨s', hs', hsame⟩ := finish_ok (serverOptions σ).length S hv hh hd
  refine ⟨s', by simp only [parse, parseFrom, hlex, hrun, ← hS, hs'], fun f hf h0 => ?_⟩
  rw [hsame f hf, Bool.eq_iff_iff, bne_iff_ne, key f h0]

end Opts
