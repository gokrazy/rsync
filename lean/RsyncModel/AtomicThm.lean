import RsyncModel.Atomic
/-! What a run of events does: the step equations of `run`, and the state after the receiver's
events for one file, for every outcome and every state before. -/
namespace Atomic

@[simp] theorem run_nil (s : St) : run s [] = s := rfl
@[simp] theorem run_cons (s : St) (e : Ev) (l : List Ev) : run s (e :: l) = run (step s e) l := rfl
theorem run_append (s : St) (a b : List Ev) : run s (a ++ b) = run (run s a) b := List.foldl_append ..

theorem step_create_write (s : St) (id : Nat) (c : Bytes) :
    step (step s (.createTemp id)) (.write id c) = { s with temps := (id, c) :: s.temps.filter (·.1 != id) } := by
  have hf : (s.temps.filter (·.1 != id)).map (fun t => if t.1 == id then (t.1, t.2 ++ c) else t)
      = s.temps.filter (·.1 != id) := by
    conv => rhs; rw [← List.map_id (s.temps.filter _)]
    apply List.map_congr_left
    intro t ht
    have := (List.mem_filter.mp ht).2
    simp_all
  simp only [step, List.map_cons, hf]
  simp

theorem run_recvFileEvents (Hfile : Bytes → Bytes) (basis : Option Bytes) (stream : Bytes) (id : Nat) (p : Path)
    (pc : Bytes) (s : St) :
    run s (recvFileEvents Hfile basis stream id p pc) =
      match (Recv.recvData Hfile basis stream).1 with
      | .committed c => ⟨fun q => if q = p then some (.file c) else s.dest q, s.temps.filter (·.1 != id),
          (p, c) :: s.committed⟩
      | .failed .badHead => s
      | .failed _ => { s with temps := s.temps.filter (·.1 != id) } := by
  unfold recvFileEvents
  generalize (Recv.recvData Hfile basis stream).1 = o
  cases o with
  | committed c => simp only [run_cons, run_nil, step_create_write]; simp [step, tempContent, List.filter_filter]
  | failed e => cases e <;> simp only [run_cons, run_nil, step_create_write] <;> simp [step, List.filter_filter]

theorem Allowed.mono {old : Path → Option Node} {s s' : St} {p : Path} (h : Allowed old s p)
    (hd : s'.dest p = s.dest p) (hc : ∀ x ∈ s.committed, x ∈ s'.committed) : Allowed old s' p := by
  unfold Allowed at *
  rw [hd]
  exact h.imp id (Or.imp id (Or.imp (fun ⟨c, hm, h⟩ => ⟨c, hc _ hm, h⟩) id))

theorem Allowed.set {old : Path → Option Node} {s : St} {p q : Path} {v : Option Node} (h : Allowed old s p)
    (hv : v = none ∨ (∃ t, v = some (.link t)) ∨ v = some .dir ∨ v = some .special) :
    Allowed old { s with dest := fun r => if r = q then v else s.dest r } p := by
  by_cases hq : p = q
  · simp only [Allowed, hq, if_true]
    exact .inr (hv.imp id .inr)
  · exact h.mono (by simp [hq]) (fun _ hx => hx)

end Atomic
