import RsyncModel.Gen.Pure
import RsyncModel.Delta.Go
import RsyncModel.Mux
/-! # Tie theorems: the regenerated translations of the Go source equal the hand models

`Gen/Pure.lean` is rewritten from /repo on every run by `tools/extract/pure.go`. Each theorem here
says that a regenerated definition *is* the function the property theorems reason about (and, for
the monadic ones, that it never panics and never runs out of loop fuel). A change of the Go source
that alters one of these functions breaks the corresponding proof. -/
namespace PureTie
open Spec Go

/-! ## rsyncchecksum -/

theorem signExtend_tied (b : UInt8) : Gen.Pure.SignExtend b = signExtend b := rfl

theorem tag2_tied (a b : UInt16) : Gen.Pure.Tag2 a b = a + b := by
  rw [Gen.Pure.Tag2, show (65535 : UInt16) = -1 from rfl, UInt16.and_neg_one]

theorem tag_tied (sum : UInt32) : Gen.Pure.Tag sum = tag sum := by
  unfold Gen.Pure.Tag tag tag2
  rw [tag2_tied]

theorem sumHalves_tied (sum a b : UInt32) :
    Gen.Pure.sumHalves sum a b = (sum &&& (0xFFFF : UInt32), sum >>> 16) := rfl

theorem packSum_tied (s1 s2 x : UInt32) : Gen.Pure.packSum s1 s2 x = pack (s1, s2) := rfl

/-- what both loops of `Checksum1` keep: the byte-at-a-time sums of the bytes from `i` on, continued from the running
sums, are those of the whole buffer -/
def C1Inv (buf : Bytes) (s1 s2 : UInt32) (i : Int) : Prop :=
  ∃ n : Nat, i = n ∧ n ≤ buf.length ∧ c1tail s1 s2 (buf.drop n) = c1tail 0 0 buf

theorem checksum1_unrolled_step (buf : Bytes) (s : UInt32 × UInt32 × Int) (h : C1Inv buf s.2.1 s.1 s.2.2)
    (hc : Gen.Pure.Checksum1_cond0 buf buf.length s = true) :
    ∃ s', Gen.Pure.Checksum1_body0 buf buf.length s = .ok s' ∧ C1Inv buf s'.2.1 s'.1 s'.2.2 ∧
      (buf.length - s'.2.2).toNat < (buf.length - s.2.2).toNat := by
  obtain ⟨s2, s1, i⟩ := s
  obtain ⟨n, rfl, _, hn⟩ := h
  have hlt : n + 4 < buf.length := by simp [Gen.Pure.Checksum1_cond0] at hc; omega
  obtain ⟨b0, b1, b2, b3, h0⟩ : ∃ b0 b1 b2 b3, buf.drop n = b0 :: b1 :: b2 :: b3 :: buf.drop (n + 4) :=
    ⟨_, _, _, _, by rw [List.drop_eq_getElem_cons (by omega : n < _), List.drop_eq_getElem_cons (by omega : n + 1 < _),
      List.drop_eq_getElem_cons (by omega : n + 1 + 1 < _), List.drop_eq_getElem_cons (by omega : n + 1 + 1 + 1 < _)]⟩
  have h1 := List.drop_succ_of_drop h0
  have h2 := List.drop_succ_of_drop h1
  have h3 := List.drop_succ_of_drop h2
  refine ⟨(s2 + (4 * (s1 + signExtend b0) + 3 * signExtend b1 + 2 * signExtend b2 + signExtend b3),
    s1 + (signExtend b0 + signExtend b1 + signExtend b2 + signExtend b3), ((n + 4 : Nat) : Int)),
    ?_, ⟨n + 4, rfl, by omega, ?_⟩, ?_⟩
  · simp only [Gen.Pure.Checksum1_body0, Int.add_zero, idx_of_drop h0, show idx buf ((n : Int) + 1) = _ from idx_of_drop h1,
      show idx buf ((n : Int) + 2) = _ from idx_of_drop h2, show idx buf ((n : Int) + 3) = _ from idx_of_drop h3, Go.bind_ok]
    rfl
  · rw [← hn, h0, c1tail4]
  · simp only; omega

theorem checksum1_tail_step (buf : Bytes) (s : UInt32 × UInt32 × Int) (h : C1Inv buf s.1 s.2.1 s.2.2)
    (hc : Gen.Pure.Checksum1_cond1 buf buf.length s = true) :
    ∃ s', Gen.Pure.Checksum1_body1 buf buf.length s = .ok s' ∧ C1Inv buf s'.1 s'.2.1 s'.2.2 ∧
      (buf.length - s'.2.2).toNat < (buf.length - s.2.2).toNat := by
  obtain ⟨s1, s2, i⟩ := s
  obtain ⟨n, rfl, _, hn⟩ := h
  have hlt : n < buf.length := by simpa [Gen.Pure.Checksum1_cond1] using hc
  have h0 := List.drop_eq_getElem_cons hlt
  refine ⟨(s1 + signExtend buf[n], s2 + (s1 + signExtend buf[n]), ((n + 1 : Nat) : Int)), ?_, ⟨n + 1, rfl, hlt, ?_⟩, ?_⟩
  · simp only [Gen.Pure.Checksum1_body1, idx_of_drop h0, Go.bind_ok]; rfl
  · rw [← hn, h0, c1tail]
  · simp only; omega

/-- **`rsyncchecksum.Checksum1` as the source has it is the model's `checksum1`**, never panics and
never exceeds its loop bounds, for every buffer -/
theorem checksum1_tied (buf : Bytes) : Gen.Pure.Checksum1 buf = .ok (checksum1 buf) := by
  have tail : ∀ (i : Int) (s2 s1 : UInt32), C1Inv buf s1 s2 i →
      (Go.bind (Go.loop buf.length (Gen.Pure.Checksum1_cond1 buf buf.length) (Gen.Pure.Checksum1_body1 buf buf.length) (s1, s2, i))
        fun (s1, s2, i) => Go.Res.ok ((s1 &&& (65535 : UInt32)) + (s2 <<< 16))) = .ok (checksum1 buf) := by
    intro i s2 s1 hs
    obtain ⟨⟨s1, s2, i⟩, hl, ⟨n, rfl, hn, hv⟩, hc⟩ := Go.loop_rule (fun s : UInt32 × UInt32 × Int => C1Inv buf s.1 s.2.1 s.2.2)
      (fun s => ((buf.length : Int) - s.2.2).toNat) (checksum1_tail_step buf) buf.length (s1, s2, i) hs
      (by obtain ⟨n, rfl, _⟩ := hs; simp only; omega)
    have : n = buf.length := by simp [Gen.Pure.Checksum1_cond1] at hc; omega
    rw [hl, checksum1, c1loop_eq_tail, ← hv, this, List.drop_length]
    rfl
  have init : C1Inv buf 0 0 0 := ⟨0, rfl, Nat.zero_le _, rfl⟩
  unfold Gen.Pure.Checksum1
  simp only
  split
  · obtain ⟨⟨s2, s1, i⟩, hl, hinv, _⟩ := Go.loop_rule (fun s : UInt32 × UInt32 × Int => C1Inv buf s.2.1 s.1 s.2.2)
      (fun s => ((buf.length : Int) - s.2.2).toNat) (checksum1_unrolled_step buf) buf.length (0, 0, 0) init (by simp)
    simp only [hl, Go.bind_ok]
    exact tail i s2 s1 hinv
  · exact tail 0 0 0 init

/-! ## the rolling update of `hashSearch` (match.go) -/

theorem idx_zero_cons (x : UInt8) (l : Bytes) : Go.idx (x :: l) (0 : Int) = .ok x :=
  Go.idx_of_drop (n := 0) rfl

theorem idx_mid (x y : UInt8) (w tl : Bytes) :
    Go.idx (x :: (w ++ y :: tl)) ((w.length + 1 : Nat) : Int) = .ok y :=
  Go.idx_of_drop (rest := tl) (by simp)

/-- with a further byte `y` behind the window `x :: w`, the source's update is `rollStep` -/
theorem rollUpdate_more (s1 s2 : UInt32) (x y : UInt8) (w tl : Bytes) :
    Gen.Pure.rollUpdate s1 s2 ((w.length + 1 : Nat) : Int) (x :: (w ++ y :: tl)) true
      = .ok ((rollStep s1 s2 (UInt32.ofInt ((w.length + 1 : Nat) : Int)) x y).1,
             (rollStep s1 s2 (UInt32.ofInt ((w.length + 1 : Nat) : Int)) x y).2, ((w.length + 1 : Nat) : Int)) := by
  unfold Gen.Pure.rollUpdate rollStep
  simp only [idx_zero_cons, idx_mid, Go.bind_ok, if_true, signExtend_tied]

/-- at the end of the file the window only shrinks: the source's update is `dropStep` -/
theorem rollUpdate_last (s1 s2 : UInt32) (x : UInt8) (l : Bytes) (k : Int) :
    Gen.Pure.rollUpdate s1 s2 k (x :: l) false
      = .ok ((dropStep s1 s2 (UInt32.ofInt k) x).1, (dropStep s1 s2 (UInt32.ofInt k) x).2, k - 1) := by
  unfold Gen.Pure.rollUpdate dropStep
  simp only [idx_zero_cons, Go.bind_ok, Bool.false_eq_true, if_false, signExtend_tied]

/-! ## `UInt32.ofInt` of a natural number -/

theorem ofInt_natCast (n : Nat) : UInt32.ofInt (n : Int) = UInt32.ofNat n := by
  rw [UInt32.ofInt, show (2 : Int) ^ 32 = ((2 ^ 32 : Nat) : Int) from rfl, ← Int.natCast_emod, Int.toNat_natCast]
  exact UInt32.ofNat_mod_size

theorem cong_ofInt_nat (n : Nat) : Cong (UInt32.ofInt (n : Int)) (n : Int) :=
  ofInt_natCast n ▸ cong_of_toNat UInt32.toNat_ofNat' rfl

/-! ## lengths and offsets of blocks on both sides -/

/-- `readChunk`: the window at `offset` is a full block or what is left of the file -/
theorem chunkLen_tied (bl : Int32) (size offset k0 : Int) :
    Gen.Pure.chunkLen bl size offset k0 = min bl.toInt (size - offset) := by
  simp only [Gen.Pure.chunkLen, decide_eq_true_eq]; omega

/-- a validated header as the 32-bit fields the source holds -/
structure Head32 where
  count : Int32
  bl : Int32
  rem : Int32

def Head32.ok (h : Head32) : Prop := 0 ≤ h.count.toInt ∧ 0 ≤ h.bl.toInt ∧ 0 ≤ h.rem.toInt

def Head32.toHead (h : Head32) (cs : Nat) : Delta.Head := ⟨h.count.toInt.toNat, h.bl.toInt.toNat, cs, h.rem.toInt.toNat⟩

/-- the length test of both sides (`i == count-1 && rem != 0`, in `receiveSums` and `receiveData`) on the header's
32-bit fields is the model's -/
theorem lastBlock_iff (h : Head32) (hok : h.ok) (cs : Nat) (i : Int32) (hi : 0 ≤ i.toInt) :
    ((i == h.count - 1) && (h.rem != 0)) = true ↔ i.toInt.toNat + 1 = (h.toHead cs).count ∧ (h.toHead cs).rem ≠ 0 := by
  obtain ⟨hc, hb, hr⟩ := hok
  have := h.count.toInt_lt
  have e : (h.count - 1).toInt = h.count.toInt - 1 := Int32.toInt_sub_of_bounds (by simp; omega) (by simp; omega)
  simp only [Head32.toHead, Bool.and_eq_true, beq_iff_eq, bne_iff_ne, ne_eq, ← Int32.toInt_inj, e, Int32.toInt_zero]
  omega

theorem blockLen_toHead (h : Head32) (hok : h.ok) (cs : Nat) (i : Int32) (hi : 0 ≤ i.toInt) :
    (if ((i == h.count - 1) && (h.rem != 0)) = true then h.rem.toInt else h.bl.toInt) =
      (Delta.blockLen (h.toHead cs) i.toInt.toNat : Int) := by
  have := hok.2.1; have := hok.2.2
  simp only [Delta.blockLen, lastBlock_iff h hok cs i hi]
  split <;> simp only [Head32.toHead] <;> omega

/-- **receiver side** (`receiveData`): a reference token `tok < 0` names block `-(tok+1)`, which is
read at `index · blockLength` (computed in 64 bits: no wrap-around for any 32-bit index and block
length) with the model's `blockLen` — the same length the sender recorded -/
theorem refSpan_tied (h : Head32) (hok : h.ok) (cs : Nat) (tok : Int32) (hneg : tok.toInt < 0) :
    let idx := (-(tok.toInt + 1)).toNat
    Gen.Pure.refSpan tok h.count h.bl h.rem =
      (-(tok + 1), ((idx * (h.toHead cs).bl : Nat) : Int), Int32.ofInt (Delta.blockLen (h.toHead cs) idx)) := by
  intro idx
  have hlo := tok.le_toInt
  have e1 : (tok + 1).toInt = tok.toInt + 1 := Int32.toInt_add_of_bounds (by simp; omega) (by simp; omega)
  have hidx : (-(tok + 1)).toInt = -(tok.toInt + 1) := by rw [Int32.toInt_neg_of_bounds (by omega), e1]
  have hb := hok.2.1
  refine Prod.ext rfl (Prod.ext ?_ ?_)
  · simp only [Gen.Pure.refSpan, hidx, Head32.toHead, idx]
    rw [Int.natCast_mul, Int.toNat_of_nonneg (by omega), Int.toNat_of_nonneg hb]
  · have := blockLen_toHead h hok cs (-(tok + 1)) (by omega)
    simp only [Gen.Pure.refSpan, idx, ← hidx, ← this]
    split <;> simp

/-! ## multiplex header -/

theorem muxHeader_tied (tag : UInt8) (p : Bytes) :
    Gen.Pure.muxHeader tag p = Mux.header tag p.length := by
  rw [Gen.Pure.muxHeader, ofInt_natCast]; rfl

theorem muxDecode_tied (bs : Bytes) (t0 : UInt8) :
    Gen.Pure.muxDecode (Mux.hdrOf bs) t0 = (Mux.tagOf bs, Mux.hdrOf bs &&& 0x00FFFFFF) := rfl

/-! ## the 32/64-bit choice of `WriteInt64` -/

theorem int64Short_tied (v : Int64) :
    Gen.Pure.int64Short v.toInt false = decide (0 ≤ v ∧ v ≤ 0x7FFFFFFF) := by
  simp [Gen.Pure.int64Short, Int64.le_iff_toInt_le, and_comm]

theorem int64ShortBuf_tied (v : Int) : Gen.Pure.int64ShortBuf v false = Gen.Pure.int64Short v false := rfl

/-! ## the block layout the generator chooses -/

theorem sumSizes_blockLength_tied (len : Nat) (h : Nat.sqrt len < 2147483648) :
    (Gen.Pure.SumSizesSqroot (len : Int)).toInt = ((Delta.sumSizes len).bl : Int) := by
  rw [Gen.Pure.SumSizesSqroot, Int32.toInt_max, Go.sqrtTrunc, Int.toNat_natCast, Int32.toInt_ofInt_of_le (by omega) (by omega)]
  show max (Nat.sqrt len : Int) 700 = ((max (Nat.sqrt len) 700 : Nat) : Int)
  omega

/-- count and remainder as `SumSizesSqroot` computes them -/
theorem sumSizes_count_tied (len : Nat) (h : Nat.sqrt len < 2147483648) :
    Gen.Pure.sumSizesCount (len : Int) (Gen.Pure.SumSizesSqroot (len : Int))
      = .ok (Int32.ofInt ((Delta.sumSizes len).count : Int), Int32.ofInt ((Delta.sumSizes len).rem : Int),
             Gen.Pure.SumSizesSqroot (len : Int), (Gen.Consts.checksumLength : Int)) := by
  have hpos : 700 ≤ (Delta.sumSizes len).bl := Nat.le_max_right ..
  have e : (len : Int) + (((Delta.sumSizes len).bl : Int) - 1) = ((len + ((Delta.sumSizes len).bl - 1) : Nat) : Int) := by omega
  rw [Gen.Pure.sumSizesCount, sumSizes_blockLength_tied len h, Go.div, Go.rem, if_neg (by omega), if_neg (by omega), e,
    ← Int.ofNat_tdiv, ← Int.ofNat_tmod]
  rfl

/-! ## the update rule (`skipFile`, `modTimeEqual`, generator.go) -/

/-- modification times are compared at one-second granularity: whatever the sub-second parts -/
theorem modTimeEqual_tied (s1 s2 a b : Int) (ha : 0 ≤ a ∧ a < 1000000000) (hb : 0 ≤ b ∧ b < 1000000000) :
    Gen.Pure.modTimeEqual (s1 * 1000000000 + a) (s2 * 1000000000 + b) = (s1 == s2) := by
  rw [Gen.Pure.modTimeEqual, Go.truncSec_add _ _ ha.1 ha.2, Go.truncSec_add _ _ hb.1 hb.2, Bool.eq_iff_iff, beq_iff_eq, beq_iff_eq]
  exact Int.mul_eq_mul_right_iff (by decide)

/-! ## what `matched` hashes (match.go) -/

/-- the span fed to the whole-file hash by one call of `matched` starts at the old `lastMatch`, and the
new `lastMatch` is exactly its end: consecutive calls hash consecutive, non-overlapping spans of the
file; a block reference adds the block's length, the two pseudo-tokens (-1, -2) add nothing -/
theorem matchedSpan_tied (offset lastMatch sumLen : Int) (i : Int32) :
    Gen.Pure.matchedSpan offset i lastMatch sumLen =
      .ok (offset - lastMatch + (if i.toInt < 0 then 0 else sumLen), offset + (if i.toInt < 0 then 0 else sumLen)) := by
  by_cases h : i.toInt < 0 <;> simp [Gen.Pure.matchedSpan, Int32.lt_iff_toInt_lt, h]

theorem matchedSpan_contiguous (offset lastMatch sumLen : Int) (i : Int32) :
    ∃ n lm', Gen.Pure.matchedSpan offset i lastMatch sumLen = .ok (n, lm') ∧ lm' = lastMatch + n := by
  refine ⟨_, _, matchedSpan_tied offset lastMatch sumLen i, ?_⟩
  omega


/-! ## `simpleSendToken` (token.go): a literal run goes out in chunks of at most `chunkSize`, then the token -/

/-- what the model's chunks look like on the wire: length word, then the bytes -/
def emitChunks (cs : List Bytes) : List Go.Out := cs.flatMap fun c => [Go.Out.i32 (Int32.ofInt c.length), Go.Out.bytes c]

/-- what the loop of `simpleSendToken` keeps while the run `seg` leaves: `l` bytes are out, and what has been written,
followed by the chunks of the rest, is `all` -/
def SendInv (seg : Bytes) (all out : List Go.Out) (l : Int) : Prop :=
  ∃ k : Nat, l = k ∧ k ≤ seg.length ∧ out ++ emitChunks (Delta.cutChunks 262144 (seg.drop k)) = all

/-- one pass sends the next chunk of `seg`, the run of `n` bytes that `ms.ptr` serves piecewise (`hslice`) -/
theorem sendToken_step {file seg : Bytes} {n : Nat} {offset : Int} (token : Int32) (hlen : seg.length = n)
    (hslice : ∀ k c : Nat, k + c ≤ n → (seg.drop k).take c = Go.fileSlice file (offset + k) c)
    (all : List Go.Out) (s : List Go.Out × Int) (h : SendInv seg all s.1 s.2)
    (hc : Gen.Pure.sendToken_cond0 file n offset token s = true) :
    ∃ s', Gen.Pure.sendToken_body0 file n offset token s = .ok s' ∧ SendInv seg all s'.1 s'.2 ∧
      ((n : Int) - s'.2).toNat < ((n : Int) - s.2).toNat := by
  obtain ⟨o, l⟩ := s
  obtain ⟨k, rfl, hk, rfl⟩ := h
  subst hlen
  have hlt : k < seg.length := by simpa [Gen.Pure.sendToken_cond0] using hc
  have hstep := Delta.cutChunks_step 262144 (by decide) (seg.drop k) (List.ne_nil_of_length_pos (by rw [List.length_drop]; omega))
  generalize hm : min 262144 (seg.drop k).length = m at hstep
  obtain ⟨hn1, hpos, hle⟩ : min (262144 : Int) (seg.length - k) = m ∧ 0 < m ∧ k + m ≤ seg.length := by
    rw [List.length_drop] at hm; omega
  clear hm
  refine ⟨(o ++ [.i32 (Int32.ofInt m)] ++ [.bytes ((seg.drop k).take m)], ((k + m : Nat) : Int)), ?_,
    ⟨k + m, rfl, hle, ?_⟩, by simp only; omega⟩
  · simp only [Gen.Pure.sendToken_body0, hn1, ← hslice k m hle]; rfl
  · rw [hstep, List.drop_drop]
    simp [emitChunks, Nat.min_eq_left (Nat.le_sub_of_add_le' hle)]

theorem sendToken_loop (file : Bytes) (n : Nat) (offset : Int) (token : Int32) (out : List Go.Out) (h0 : 0 ≤ offset)
    (hin : offset + n ≤ (file.length : Int)) :
    ∃ l, Go.loop n (Gen.Pure.sendToken_cond0 file n offset token) (Gen.Pure.sendToken_body0 file n offset token) (out, 0)
      = .ok (out ++ emitChunks (Delta.cutChunks 262144 ((file.drop offset.toNat).take n)), l) := by
  have hlen : (fileSlice file offset n).length = n := fileSlice_length h0 hin
  obtain ⟨⟨out', l⟩, hl, ⟨k, rfl, hk, hv⟩, hc⟩ := Go.loop_rule (fun s => SendInv (fileSlice file offset n) _ s.1 s.2)
    (fun s => ((n : Int) - s.2).toNat) (sendToken_step token hlen (fun _ _ => fileSlice_drop_take file h0) _) n (out, 0)
    ⟨0, rfl, Nat.zero_le _, rfl⟩ (Nat.le_of_eq (by simp))
  have : n ≤ k := by simpa [Gen.Pure.sendToken_cond0] using hc
  rw [List.drop_eq_nil_of_le (by omega), Delta.cutChunks_nil] at hv
  obtain rfl : out' = _ := (List.append_nil _).symm.trans hv
  exact ⟨k, hl⟩

/-! ## the early flush of a long unmatched run (match.go) -/

/-- the condition under which `hashSearch` sends the pending run before any match -/
theorem flushCond_tied (backup end_ offset : Int) (bl : Int32) :
    Gen.Pure.flushCond backup bl end_ offset false =
      decide (backup ≥ bl.toInt + (Delta.chunkSize : Int) ∧ end_ - offset > (Delta.chunkSize : Int)) := by
  simp [Gen.Pure.flushCond, show Delta.chunkSize = 262144 from rfl]

end PureTie
