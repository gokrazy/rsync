import RsyncModel.RecvThm
import RsyncModel.Delta.GoThm
import RsyncModel.Delta.Exact
/-! Sender ∘ receiver: the stream the Go-level sender emits for `t` against a faithful signature of
`basis` is reconstructed by the receiver to exactly `t`, and committed. -/
namespace Recv
open Wire Delta
open Spec (ATok Tok flat)

def TokOk : ATok → Prop
  | .lits bs => 0 < bs.length ∧ bs.length < 2147483648
  | .ref i => i + 1 < 2147483648

theorem wireOk_iff (ts : List ATok) : WireOk ts ↔ ∀ t ∈ ts, TokOk t := by
  induction ts with
  | nil => simp [WireOk]
  | cons x xs ih => cases x <;> simp [WireOk, TokOk, ih, and_assoc]

theorem apply_lits (blk : Nat → List UInt8) (bs : List UInt8) (r : List Tok) :
    Spec.apply blk (bs.map Tok.lit ++ r) = bs ++ Spec.apply blk r := by
  induction bs with
  | nil => simp
  | cons b bs ih => simp [Spec.apply, ih]

theorem denote_eq_apply (hd : Head) (basis : List UInt8) (blk : Nat → List UInt8) (ts : List ATok)
    (h : ∀ i, ATok.ref i ∈ ts → readBlock hd basis i = some (blk i)) :
    denote hd basis ts = some (Spec.apply blk (flat ts)) := by
  induction ts with
  | nil => simp [denote, flat, Spec.apply]
  | cons x xs ih =>
    have ih' := ih (fun i hi => h i (by simp [hi]))
    cases x with
    | lits bs => simp only [denote, ih', flat, Option.map_some, apply_lits]
    | ref i => simp only [denote, h i (by simp), ih', flat, Option.map_some, Spec.apply]

def encHead (h : Head) : List UInt8 :=
  encI32 (i32 h.count) ++ encI32 (i32 h.bl) ++ encI32 (i32 h.csLen) ++ encI32 (i32 h.rem)

/-- a header the real `ReadFrom` accepts -/
def HeadOk (h : Head) : Prop :=
  h.count < 2147483648 ∧ h.bl ≤ maxBlockLen ∧ h.csLen ≤ maxCsLen ∧ h.rem ≤ h.bl ∧ (0 < h.count → 0 < h.bl)

theorem readHead_encHead (h : Head) (r : List UInt8) (ok : HeadOk h) :
    readHead (encHead h ++ r) = .ok (h, r) := by
  obtain ⟨hc, hb, hs, hr, hz⟩ := ok
  have mb : maxBlockLen = 536870912 := rfl
  have mc : maxCsLen = 16 := rfl
  have c1 := i32_toInt h.count (by omega) (by omega)
  have c2 := i32_toInt h.bl (by omega) (by omega)
  have c3 := i32_toInt h.csLen (by omega) (by omega)
  have c4 := i32_toInt h.rem (by omega) (by omega)
  simp only [readHead, encHead, List.append_assoc, decI32_encI32, Int32.lt_iff_toInt_lt, gt_iff_lt, beq_iff_eq,
    ← Int32.toInt_inj, Int32.toInt_zero, c1, c2, c3, c4, Int.toNat_natCast]
  rw [if_neg (by omega), if_neg (by omega), if_neg (by omega), if_neg (by omega), if_neg (by omega)]

/-- what the delta path and the whole-file path have in common -/
theorem recvData_enc (Hfile : Bytes → Bytes) (basis : Option Bytes) (h : Head) (toks c rest : Bytes) (ok : HeadOk h)
    (htoks : recvTokens h basis (toks ++ (Hfile c ++ rest)) [] = .ok (c, Hfile c ++ rest))
    (h16 : (Hfile c).length = 16) :
    recvData Hfile basis (encHead h ++ (toks ++ (Hfile c ++ rest))) = (.committed c, rest) := by
  rw [recvData_of_parts Hfile basis _ h _ c _ (readHead_encHead h _ ok) htoks, if_neg (by simp [h16]),
    List.take_left' h16, List.drop_left' h16, if_pos (beq_self_eq_true _)]

/-- **Round trip** (C02): for a signature that is faithful to `basis` (a window that matches block
`i` *is* block `i`: honest sums and no strong-hash collision) the receiver commits exactly the
target, whatever the target, block layout, strong-checksum length, chunking and flush policy. -/
theorem roundtrip (Hs Hfile : List UInt8 → List UInt8) (h : Head) (sums : List Delta.Sum) (basis t rest : List UInt8)
    (blk : Nat → List UInt8) (ok : HeadOk h) (hlen : sums.length < 2147483648)
    (hfile16 : (Hfile t).length = 16)
    (hfaithful : ∀ w i, (mkCtx Hs h sums).matches w i = true → blk i = w)
    (hread : ∀ i, i < sums.length → readBlock h basis i = some (blk i)) :
    recvData Hfile (some basis)
        (encHead h ++ (encToks (senderTokens Hs h sums t) ++ (Hfile t ++ rest))) = (.committed t, rest) := by
  have hbl : h.bl < 4294967296 := by
    have : maxBlockLen = 536870912 := rfl
    have := ok.2.1; omega
  have hmem := mem_senderTokens Hs h sums t hbl
  have hcs : chunkSize < 2147483648 := by decide
  apply recvData_enc Hfile _ h _ t rest ok _ hfile16
  apply recvTokens_denotes
  · refine (wireOk_iff _).mpr fun x hx => ?_
    rcases hmem x hx with ⟨b, rfl, h0, h1⟩ | ⟨i, rfl, hi⟩
    · exact ⟨h0, by omega⟩
    · show i + 1 < 2147483648; omega
  · rw [denote_eq_apply h basis blk, senderTokens_eq_greedy Hs h sums t hbl, Spec.sender_exact _ _ blk hfaithful]
    intro i hi
    rcases hmem _ hi with ⟨b, hb, _⟩ | ⟨j, hj, hlt⟩
    · cases hb
    · cases hj; exact hread i hlt

end Recv
