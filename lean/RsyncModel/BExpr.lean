/-! Boolean expressions over atoms, as the extractor emits them for `if` conditions of the source,
with a *decision procedure for equivalence*: two expressions are equivalent for every assignment if
they agree on every assignment of the atoms that occur in them (`equivB_sound`). So a claim about
all option sets / all entry kinds becomes a finite check the kernel evaluates. -/

inductive BExpr (α : Type) where
  | tt | ff
  | atom (a : α)
  | not (e : BExpr α)
  | and (a b : BExpr α)
  | or (a b : BExpr α)
deriving Repr

namespace BExpr
variable {α : Type}

def eval (σ : α → Bool) : BExpr α → Bool
  | .tt => true
  | .ff => false
  | .atom a => σ a
  | .not e => !(eval σ e)
  | .and a b => eval σ a && eval σ b
  | .or a b => eval σ a || eval σ b

def vars : BExpr α → List α
  | .tt => []
  | .ff => []
  | .atom a => [a]
  | .not e => vars e
  | .and a b => vars a ++ vars b
  | .or a b => vars a ++ vars b

def map {β : Type} (f : α → β) : BExpr α → BExpr β
  | .tt => .tt
  | .ff => .ff
  | .atom a => .atom (f a)
  | .not e => .not (map f e)
  | .and a b => .and (map f a) (map f b)
  | .or a b => .or (map f a) (map f b)

def subst {β : Type} (f : α → BExpr β) : BExpr α → BExpr β
  | .tt => .tt
  | .ff => .ff
  | .atom a => f a
  | .not e => .not (subst f e)
  | .and a b => .and (subst f a) (subst f b)
  | .or a b => .or (subst f a) (subst f b)

theorem eval_subst {β : Type} (f : α → BExpr β) (σ : β → Bool) (e : BExpr α) :
    eval σ (subst f e) = eval (fun a => eval σ (f a)) e := by
  induction e with
  | tt => rfl
  | ff => rfl
  | atom a => rfl
  | not e ih => simp [subst, eval, ih]
  | and a b iha ihb => simp [subst, eval, iha, ihb]
  | or a b iha ihb => simp [subst, eval, iha, ihb]

theorem eval_map {β : Type} (f : α → β) (σ : β → Bool) (e : BExpr α) :
    eval σ (map f e) = eval (fun a => σ (f a)) e := by
  induction e with
  | tt => rfl
  | ff => rfl
  | atom a => rfl
  | not e ih => simp [map, eval, ih]
  | and a b iha ihb => simp [map, eval, iha, ihb]
  | or a b iha ihb => simp [map, eval, iha, ihb]

theorem eval_congr (σ τ : α → Bool) (e : BExpr α) (h : ∀ a ∈ vars e, σ a = τ a) : eval σ e = eval τ e := by
  induction e with
  | tt => rfl
  | ff => rfl
  | atom a => exact h a (by simp [vars])
  | not e ih => simp [eval, ih h]
  | and a b iha ihb =>
    simp only [eval]
    rw [iha (fun x hx => h x (by simp [vars, hx])), ihb (fun x hx => h x (by simp [vars, hx]))]
  | or a b iha ihb =>
    simp only [eval]
    rw [iha (fun x hx => h x (by simp [vars, hx])), ihb (fun x hx => h x (by simp [vars, hx]))]

variable [DecidableEq α]

def ofTrue (ts : List α) : α → Bool := fun a => ts.contains a

def subsets : List α → List (List α)
  | [] => [[]]
  | x :: xs => (subsets xs) ++ (subsets xs).map (x :: ·)

omit [DecidableEq α] in
theorem filter_mem_subsets (p : α → Bool) (vs : List α) : vs.filter p ∈ subsets vs := by
  induction vs with
  | nil => simp [subsets]
  | cons x xs ih => cases h : p x <;> simp [subsets, h, ih]

theorem ofTrue_filter (σ : α → Bool) (vs : List α) (a : α) (h : a ∈ vs) : ofTrue (vs.filter σ) a = σ a := by
  cases hs : σ a <;> simp [ofTrue, h, hs]

def equivB (e₁ e₂ : BExpr α) : Bool :=
  (subsets ((vars e₁ ++ vars e₂).eraseDups)).all fun ts => eval (ofTrue ts) e₁ == eval (ofTrue ts) e₂

theorem equivB_sound (e₁ e₂ : BExpr α) (h : equivB e₁ e₂ = true) (σ : α → Bool) : eval σ e₁ = eval σ e₂ := by
  have h1 := List.all_eq_true.mp h _ (filter_mem_subsets σ _)
  have e : ∀ e, vars e ⊆ vars e₁ ++ vars e₂ → eval σ e = eval (ofTrue ((vars e₁ ++ vars e₂).eraseDups.filter σ)) e :=
    fun e he => eval_congr _ _ _ fun a ha => (ofTrue_filter σ _ a (List.mem_eraseDups.mpr (he ha))).symm
  rw [e e₁ (List.subset_append_left _ _), e e₂ (List.subset_append_right _ _)]; exact beq_iff_eq.mp h1

def implB (e₁ e₂ : BExpr α) : Bool := equivB (.or (.not e₁) e₂) .tt

theorem implB_sound (e₁ e₂ : BExpr α) (h : implB e₁ e₂ = true) (σ : α → Bool) (h1 : eval σ e₁ = true) : eval σ e₂ = true := by
  have := equivB_sound _ _ h σ
  simp [eval, h1] at this
  exact this

end BExpr
