import RsyncModel.RecvData
/-! The receiver's loop on an encoded token stream: one equation per kind of token (`recvTokens_end`,
`recvTokens_lits`, `recvTokens_ref`), and from them that it writes exactly what the stream denotes;
`recvData` on a stream whose parts are known (`recvData_of_parts`). -/
namespace Recv
open Wire Delta
open Spec (ATok)

def i32 (z : Int) : Int32 := Int32.ofInt z

theorem i32_toInt (z : Int) (h1 : -2147483648 ≤ z) (h2 : z < 2147483648) : (i32 z).toInt = z :=
  Int32.toInt_ofInt_of_le h1 h2

/-- wire form of one token (token.go): a literal run is its length followed by the bytes; a
reference to block `i` is `-(i+1)` -/
def encTok : ATok → Bytes
  | .lits bs => encI32 (i32 bs.length) ++ bs
  | .ref i => encI32 (i32 (-(i + 1 : Int)))

def encToks (ts : List ATok) : Bytes := ts.flatMap encTok ++ encI32 (i32 0)

/-- the `Int32` tests are stated on `v.toInt`, where `i32_toInt` and `omega` decide them -/
theorem recvTokens_step (hd : Head) (basis : Option (List UInt8)) (v : Int32) (r acc : List UInt8) :
    recvTokens hd basis (encI32 v ++ r) acc =
      if v.toInt = 0 then .ok (acc, r)
      else if 0 < v.toInt then
        (if r.length < v.toInt.toNat then .error .short
         else recvTokens hd basis (r.drop v.toInt.toNat) (acc ++ r.take v.toInt.toNat))
      else match basis with
        | none => .error .noBasis
        | some b => match readBlock hd b (-(v.toInt + 1)).toNat with
          | none => .error .readAt
          | some data => recvTokens hd basis r (acc ++ data) := by
  have h := decI32_encI32 v r
  unfold decI32 at h
  split at h
  · cases h
  · next hl =>
    simp only [Option.some.injEq, Prod.mk.injEq] at h
    rw [recvTokens, dif_neg hl]
    simp only [h.1, h.2, ← Int32.toInt_inj, Int32.lt_iff_toInt_lt, gt_iff_lt, beq_iff_eq, Int32.toInt_zero]
    rfl

theorem recvTokens_end (hd : Head) (basis : Option Bytes) (r acc : Bytes) :
    recvTokens hd basis (encI32 (i32 0) ++ r) acc = .ok (acc, r) := by
  rw [recvTokens_step, i32_toInt 0 (by omega) (by omega), if_pos rfl]

theorem recvTokens_lits (hd : Head) (basis : Option Bytes) (bs r acc : Bytes)
    (h0 : 0 < bs.length) (h1 : bs.length < 2147483648) :
    recvTokens hd basis (encTok (.lits bs) ++ r) acc = recvTokens hd basis r (acc ++ bs) := by
  rw [encTok, List.append_assoc, recvTokens_step, i32_toInt _ (by omega) (by omega)]
  rw [if_neg (Int.natCast_ne_zero.mpr (Nat.ne_of_gt h0)), if_pos (Int.natCast_pos.mpr h0), Int.toNat_natCast,
    if_neg (by simp), List.drop_left, List.take_left]

theorem recvTokens_ref (hd : Head) (b : Bytes) (i : Nat) (r acc : Bytes) (h : i + 1 < 2147483648) :
    recvTokens hd (some b) (encTok (.ref i) ++ r) acc =
      match readBlock hd b i with
      | none => .error .readAt
      | some d => recvTokens hd (some b) r (acc ++ d) := by
  rw [encTok, recvTokens_step, i32_toInt _ (by omega) (by omega)]
  have hi : (-(-(i + 1 : Int) + 1)).toNat = i := by omega
  rw [if_neg (by omega), if_neg (by omega), hi]

def denote (hd : Head) (basis : Bytes) : List ATok → Option Bytes
  | [] => some []
  | .lits bs :: r => (denote hd basis r).map (bs ++ ·)
  | .ref i :: r => match readBlock hd basis i with
    | none => none
    | some d => (denote hd basis r).map (d ++ ·)

def WireOk : List ATok → Prop
  | [] => True
  | .lits bs :: r => 0 < bs.length ∧ bs.length < 2147483648 ∧ WireOk r
  | .ref i :: r => i + 1 < 2147483648 ∧ WireOk r

/-- no end marker here: the statement composes over `++` -/
theorem recvTokens_flatMap (hd : Head) (basis : Bytes) (ts : List ATok) (r acc out : Bytes)
    (hok : WireOk ts) (hden : denote hd basis ts = some out) :
    recvTokens hd (some basis) (ts.flatMap encTok ++ r) acc = recvTokens hd (some basis) r (acc ++ out) := by
  induction ts generalizing acc out with
  | nil => cases hden; simp
  | cons t ts ih =>
    rw [List.flatMap_cons, List.append_assoc]
    cases t with
    | lits bs =>
      simp only [denote, Option.map_eq_some_iff] at hden
      obtain ⟨o, ho, rfl⟩ := hden
      rw [recvTokens_lits _ _ _ _ _ hok.1 hok.2.1, ih _ o hok.2.2 ho, List.append_assoc]
    | ref i =>
      rw [recvTokens_ref _ _ _ _ _ hok.1]
      simp only [denote] at hden
      split at hden
      · cases hden
      · simp only [Option.map_eq_some_iff] at hden
        obtain ⟨o, ho, rfl⟩ := hden
        rw [ih _ o hok.2 ho, List.append_assoc]

/-- **The receiver writes exactly the bytes the stream denotes** — for any basis, any header, literal
runs of any chunking and references in any order (C02, receiving half). -/
theorem recvTokens_denotes (hd : Head) (basis : Bytes) (ts : List ATok) (rest acc out : Bytes)
    (hok : WireOk ts) (hden : denote hd basis ts = some out) :
    recvTokens hd (some basis) (encToks ts ++ rest) acc = .ok (acc ++ out, rest) := by
  rw [encToks, List.append_assoc, recvTokens_flatMap hd basis ts _ acc out hok hden, recvTokens_end]

/-- what the whole-file path (`sendFile`) puts on the wire: rebuilt whatever the basis (there need not be one) -/
theorem recvTokens_literals (hd : Head) (basis : Option Bytes) (chunks : List Bytes) (rest acc : Bytes)
    (hok : ∀ c ∈ chunks, 0 < c.length ∧ c.length < 2147483648) :
    recvTokens hd basis (encToks (chunks.map ATok.lits) ++ rest) acc = .ok (acc ++ chunks.flatten, rest) := by
  rw [encToks, List.append_assoc]
  induction chunks generalizing acc with
  | nil => simp [recvTokens_end]
  | cons c cs ih =>
    have ⟨h0, h1⟩ := hok c (.head _)
    rw [List.map_cons, List.flatMap_cons, List.append_assoc, recvTokens_lits _ _ _ _ _ h0 h1,
      ih _ fun c hc => hok c (.tail _ hc)]
    simp

theorem recvData_of_parts (Hfile : Bytes → Bytes) (basis : Option Bytes) (stream : Bytes) (hd : Head) (r c r' : Bytes)
    (h1 : readHead stream = .ok (hd, r)) (h2 : recvTokens hd basis r [] = .ok (c, r')) :
    recvData Hfile basis stream =
      if r'.length < 16 then (.failed .short, [])
      else if Hfile c == r'.take 16 then (.committed c, r'.drop 16)
      else (.failed .hash, r'.drop 16) := by
  simp only [recvData, h1, h2]

end Recv
