import RsyncModel.AtomicThm
/-! # A whole receiving session over a file list

The files of a list are received one after the other; each requested file goes through the
receiver's temp-file events (`Atomic.recvFileEvents`), driven by the bytes that arrive for it
(`Job.stream`, arbitrary here; `C01` instantiates it with the sender's stream). This module composes
the per-file results over the whole list: distinct destination paths do not disturb each other,
whatever temporaries are around. -/
namespace Session
open Atomic Recv
abbrev Bytes := List UInt8

structure Job where
  p : Path
  id : Nat
  basis : Option Bytes
  stream : Bytes
  partialC : Bytes

def events (Hfile : Bytes → Bytes) (j : Job) : List Ev := recvFileEvents Hfile j.basis j.stream j.id j.p j.partialC

def sessionEvents (Hfile : Bytes → Bytes) (jobs : List Job) : List Ev := jobs.flatMap (events Hfile)

theorem events_frame (Hfile : Bytes → Bytes) (j : Job) (s : St) (q : Path) (hq : q ≠ j.p) :
    (run s (events Hfile j)).dest q = s.dest q := by
  rw [events, run_recvFileEvents]
  split <;> simp [hq]

theorem events_fail (Hfile : Bytes → Bytes) (j : Job) (s : St) (e : Recv.Err)
    (h : (recvData Hfile j.basis j.stream).1 = .failed e) :
    (run s (events Hfile j)).dest j.p = s.dest j.p := by
  rw [events, run_recvFileEvents, h]
  cases e <;> rfl

theorem session_frame (Hfile : Bytes → Bytes) (jobs : List Job) : ∀ (s : St) (q : Path),
    (∀ j ∈ jobs, q ≠ j.p) → (run s (sessionEvents Hfile jobs)).dest q = s.dest q := by
  induction jobs with
  | nil => intro s q _; rfl
  | cons j js ih =>
    intro s q h
    rw [sessionEvents, List.flatMap_cons, run_append, ← sessionEvents,
      ih _ q (fun j' hj' => h j' (by simp [hj'])), events_frame Hfile j s q (h j (by simp))]

theorem session_dest (Hfile : Bytes → Bytes) (jobs : List Job) : ∀ (s : St),
    (jobs.map (·.p)).Nodup → ∀ j ∈ jobs,
    (run s (sessionEvents Hfile jobs)).dest j.p =
      match (recvData Hfile j.basis j.stream).1 with
      | .committed c => some (.file c)
      | .failed _ => s.dest j.p := by
  induction jobs with
  | nil => intro s _ j hj; cases hj
  | cons j0 js ih =>
    intro s hnd j hj
    obtain ⟨hnot, hnd'⟩ := List.nodup_cons.mp hnd
    rw [sessionEvents, List.flatMap_cons, run_append]
    rcases List.mem_cons.mp hj with rfl | hj'
    · rw [← sessionEvents, session_frame Hfile js _ j.p fun j' hj' heq => hnot (List.mem_map.mpr ⟨j', hj', heq.symm⟩)]
      cases h : (recvData Hfile j.basis j.stream).1 with
      | committed c => simp [events, run_recvFileEvents, h]
      | failed e => exact events_fail Hfile j s e h
    · rw [← sessionEvents, ih _ hnd' j hj', events_frame Hfile j0 s j.p fun heq => hnot (List.mem_map.mpr ⟨j, hj', heq⟩)]

end Session
