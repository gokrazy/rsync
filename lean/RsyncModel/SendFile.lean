import RsyncModel.Gen.Pure
import RsyncModel.RecvThm
/-! # The whole-file path of the sender (sender.go `sendFile`) as the source has it

`Gen.Pure.sendFileLoop` is regenerated from /repo on every run: the read loop of `sendFile` with the file as the
byte list still unread, `f.Read` as `Go.readSome` driven by an arbitrary schedule of short reads, and the
connection as an output log. Proved: for every file content and every schedule the loop sends literal tokens whose
data concatenate to exactly the file, then the end token. `wireOf_frames`: the bytes those writes put on the wire are
the model's `encToks` of literal tokens (used by `C01.source_whole_file_end_to_end`). -/
namespace SendFile
open Go Recv Wire Delta

def frames (chunks : List (List UInt8)) : List Go.Out :=
  chunks.flatMap fun c => [Go.Out.i32 (Int32.ofInt (c.length : Int)), Go.Out.bytes c]

theorem frames_cons (c : List UInt8) (cs : List (List UInt8)) : frames (c :: cs) = frames [c] ++ frames cs := rfl

/-- how many bytes the next `Read` delivers -/
def nextN (rest : List UInt8) (sched : List Nat) : Nat :=
  min (max (sched.headD (min 262144 rest.length)) 1) (min 262144 rest.length)

theorem nextN_bounds (rest : List UInt8) (sched : List Nat) (h : rest ≠ []) :
    0 < nextN rest sched ∧ nextN rest sched ≤ 262144 ∧ nextN rest sched ≤ rest.length := by
  have : 0 < rest.length := List.length_pos_iff.mpr h
  unfold nextN; omega

/-- the pieces in which the file arrives: what successive `Read`s deliver, until nothing is left -/
def readChunks (rest : List UInt8) (sched : List Nat) : List (List UInt8) :=
  if h : rest = [] then [] else
    rest.take (nextN rest sched) :: readChunks (rest.drop (nextN rest sched)) sched.tail
termination_by rest.length
decreasing_by
  have := nextN_bounds rest sched h
  simp only [List.length_drop]; omega

theorem readChunks_flatten (rest : List UInt8) (sched : List Nat) : (readChunks rest sched).flatten = rest := by
  induction rest, sched using readChunks.induct with
  | case1 => rw [readChunks]; rfl
  | case2 rest sched h ih => rw [readChunks, dif_neg h, List.flatten_cons, ih, List.take_append_drop]

theorem readChunks_bounds (rest : List UInt8) (sched : List Nat) :
    ∀ c ∈ readChunks rest sched, 0 < c.length ∧ c.length ≤ 262144 := by
  induction rest, sched using readChunks.induct with
  | case1 => rw [readChunks]; simp
  | case2 rest sched h ih =>
    rw [readChunks, dif_neg h]
    intro c hc
    rcases List.mem_cons.mp hc with rfl | hc
    · have := nextN_bounds rest sched h
      simp only [List.length_take]; omega
    · exact ih c hc

theorem body_eq (eager : Bool) (buf rest : List UInt8) (sched : List Nat) (out : List Go.Out) (offset : Int)
    (hbuf : buf.length = 262144) :
    Gen.Pure.sendFileLoop_body0 eager (buf, rest, sched, out, offset) =
      if rest = [] then .ok ((buf, [], sched, out, offset), false) else
      .ok ((rest.take (nextN rest sched) ++ buf.drop (nextN rest sched), rest.drop (nextN rest sched), sched.tail,
            out ++ frames [rest.take (nextN rest sched)], offset + (nextN rest sched : Int)),
           !(eager && (rest.drop (nextN rest sched)).isEmpty)) := by
  unfold Gen.Pure.sendFileLoop_body0 Go.readSome
  by_cases hr : rest = []
  · simp [hr]
  · obtain ⟨h0, h1, h2⟩ := nextN_bounds rest sched hr
    have hn : min (max (sched.headD (min 262144 rest.length)) 1) (min 262144 rest.length) = nextN rest sched := rfl
    have hlen : ((rest.take (nextN rest sched)).length : Int) = nextN rest sched := by rw [List.length_take, Nat.min_eq_left h2]
    simp only [hr, if_false, Go.bind_ok, hbuf, hn]
    rw [if_pos (by simp; omega), ← hlen, Go.slice_to (by simp), List.take_left]
    cases eager && (rest.drop (nextN rest sched)).isEmpty <;> simp [frames]

theorem sendLoop_eq (eager : Bool) (fuel : Nat) (buf rest : List UInt8) (sched : List Nat) (out : List Go.Out) (offset : Int)
    (hfuel : rest.length < fuel) (hbuf : buf.length = 262144) :
    ∃ buf' sched' offset', Go.loopB fuel (Gen.Pure.sendFileLoop_body0 eager) (buf, rest, sched, out, offset) =
      .ok (buf', [], sched', out ++ frames (readChunks rest sched), offset') := by
  refine Go.loopB_rule (body := Gen.Pure.sendFileLoop_body0 eager) (fun (_, rest, _) => rest.length)
    (fun (buf, rest, sched, out, _) r => buf.length = 262144 →
      ∃ buf' sched' offset', r = .ok (buf', [], sched', out ++ frames (readChunks rest sched), offset'))
    ?_ fuel _ hfuel hbuf
  intro ⟨buf, rest, sched, out, offset⟩ k ih (hbuf : buf.length = 262144)
  rw [body_eq eager buf rest sched out offset hbuf, readChunks]
  by_cases hr : rest = []
  · simp [hr, frames]
  · obtain ⟨h0, h1, h2⟩ := nextN_bounds rest sched hr
    simp only [hr, if_false, dite_false, Go.bind_ok]
    rw [frames_cons _ (readChunks _ _), ← List.append_assoc]
    cases hlast : eager && (rest.drop (nextN rest sched)).isEmpty
    · exact ih _ (by simp only [List.length_drop]; omega) (by simp only [List.length_append, List.length_take, List.length_drop]; omega)
    · -- the reader said "end of file" with these bytes: they are the last ones, and they have been sent
      have hd : rest.drop (nextN rest sched) = [] := by
        simp only [Bool.and_eq_true, List.isEmpty_iff] at hlast; exact hlast.2
      rw [hd, readChunks, dif_pos rfl, show frames [] = [] from rfl, List.append_nil]
      exact ⟨_, _, _, rfl⟩

/-- **The whole-file path sends the whole file, whatever the reader's reads look like**: for every content, every
schedule of short reads, and whether the reader reports the end of the file together with the last bytes or by the
next call (D50: the former lost those bytes), `sendFile`'s loop emits one literal token per `Read` that delivered
something (`readChunks`), each preceded by its length, then the end-of-data token, and ends within `len(file)+1` passes. -/
theorem sendFileLoop_eq (file : List UInt8) (sched : List Nat) (eager : Bool) (out : List Go.Out) :
    Gen.Pure.sendFileLoop file sched eager out = .ok (out ++ frames (readChunks file sched) ++ [Go.Out.i32 0], []) := by
  obtain ⟨_, _, _, he⟩ := sendLoop_eq eager (file.length + 1) (List.replicate 262144 0) file sched out 0
    (Nat.lt_succ_self _) (List.length_replicate ..)
  rw [Gen.Pure.sendFileLoop, Go.make_ok (by decide)]
  simp only [Go.bind_ok]
  rw [show (262144 : Int).toNat = 262144 from rfl, he]
  rfl

/-- the bytes an output log puts on the wire -/
def wireOf : List Go.Out → Bytes
  | [] => []
  | .i32 v :: r => encI32 v ++ wireOf r
  | .bytes b :: r => b ++ wireOf r

theorem wireOf_append (a b : List Go.Out) : wireOf (a ++ b) = wireOf a ++ wireOf b := by
  induction a with
  | nil => rfl
  | cons x xs ih => cases x <;> simp [wireOf, ih, List.append_assoc]

theorem wireOf_pairs {α : Type} (f : α → Int32) (g : α → Bytes) (l : List α) :
    wireOf (l.flatMap fun c => [Go.Out.i32 (f c), Go.Out.bytes (g c)]) = l.flatMap fun c => encI32 (f c) ++ g c := by
  induction l with
  | nil => rfl
  | cons c cs ih =>
    rw [List.flatMap_cons, wireOf_append, ih]
    simp [wireOf]

theorem wireOf_frames (chunks : List Bytes) :
    wireOf (frames chunks ++ [Go.Out.i32 0]) = encToks (chunks.map Spec.ATok.lits) := by
  rw [wireOf_append, frames, wireOf_pairs, encToks, List.flatMap_map]
  rfl

end SendFile
