/-! The contract of Go's traversal-resistant `*os.Root` as the receiver and the sender rely on it:
resolution of a slash-separated name below a root directory, component by component, following
symbolic links but never stepping above the root. The real thing (Go runtime + kernel, openat with
RESOLVE_BENEATH-like checks) is trusted; this model of it is validated by the `rootfs` suite on
generated trees with inside/outside/absolute/dangling/looping links, and the theorem says what the
contract gives: whatever the tree and the links, a successful resolution lies below the root.
`openName` is a method of the root applied to a name as the callers pass it, a byte string. -/
namespace RootFs

abbrev Name := List UInt8
/-- an absolute location: the names from `/` downwards -/
abbrev Loc := List Name

inductive Kind
  | file
  | dir
  | link (target : List Name) (absolute : Bool)
deriving Repr, DecidableEq

abbrev FS := Loc → Option Kind

inductive Res
  | ok (loc : Loc)
  | escapes        -- "path escapes from parent"
  | notExist
  | notDir
  | loop           -- too many levels of symbolic links
deriving Repr, DecidableEq

def dotdot : Name := [46, 46]
def dot : Name := [46]

/-- resolve `comps` starting in directory `cur`; `follow` says whether a symbolic link in the last
position is followed (Open, Stat, OpenRoot) or is the result itself (Lstat, Readlink, Remove, Symlink) -/
def resolve (fs : FS) (root : Loc) (follow : Bool) : Nat → Loc → List Name → Res
  | 0, _, _ => .loop
  | _ + 1, cur, [] => .ok cur
  | fuel + 1, cur, c :: rest =>
    if c == [] || c == dot then resolve fs root follow fuel cur rest
    else if c == dotdot then
      if cur == root then .escapes else resolve fs root follow fuel cur.dropLast rest
    else
      match fs (cur ++ [c]) with
      | none => .notExist
      | some .dir => resolve fs root follow fuel (cur ++ [c]) rest
      | some .file => if rest.isEmpty then .ok (cur ++ [c]) else .notDir
      | some (.link t abs) =>
        if rest.isEmpty && !follow then .ok (cur ++ [c])
        else if abs then .escapes
        else resolve fs root follow fuel cur (t ++ rest)

theorem prefix_dropLast (root cur : Loc) (h : root <+: cur) (hne : cur ≠ root) : root <+: cur.dropLast := by
  obtain ⟨t, rfl⟩ := h
  cases ht : t.reverse with
  | nil =>
    have : t = [] := by simpa using ht
    subst this; simp at hne
  | cons x xs =>
    have : t = xs.reverse ++ [x] := by
      have := congrArg List.reverse ht; simpa using this
    subst this
    rw [← List.append_assoc, List.dropLast_concat]
    exact List.prefix_append _ _

theorem resolve_confined (fs : FS) (root : Loc) (follow : Bool) (fuel : Nat) (cur : Loc) (comps : List Name) (loc : Loc)
    (hcur : root <+: cur) (h : resolve fs root follow fuel cur comps = .ok loc) : root <+: loc := by
  induction fuel generalizing cur comps with
  | zero => simp [resolve] at h
  | succ n ih =>
    cases comps with
    | nil => simp [resolve] at h; subst h; exact hcur
    | cons c rest =>
      rw [resolve] at h
      by_cases h1 : (c == [] || c == dot) = true
      · rw [if_pos h1] at h; exact ih cur rest hcur h
      rw [if_neg h1] at h
      by_cases h2 : (c == dotdot) = true
      · rw [if_pos h2] at h
        by_cases h3 : (cur == root) = true
        · rw [if_pos h3] at h; cases h
        · rw [if_neg h3] at h
          exact ih _ rest (prefix_dropLast root cur hcur (by simpa using h3)) h
      rw [if_neg h2] at h
      have hpush : root <+: cur ++ [c] := hcur.trans (List.prefix_append _ _)
      cases hk : fs (cur ++ [c]) with
      | none => rw [hk] at h; cases h
      | some k =>
        rw [hk] at h
        cases k with
        | dir => exact ih _ rest hpush h
        | file =>
          dsimp only at h
          by_cases h4 : rest.isEmpty = true
          · rw [if_pos h4] at h; cases h; exact hpush
          · rw [if_neg h4] at h; cases h
        | link t abs =>
          dsimp only at h
          by_cases h5 : (rest.isEmpty && !follow) = true
          · rw [if_pos h5] at h; cases h; exact hpush
          rw [if_neg h5] at h
          by_cases h6 : abs = true
          · rw [if_pos h6] at h; cases h
          · rw [if_neg h6] at h; exact ih cur _ hcur h

inductive OpenRes
  | res (r : Res)
  | invalid       -- the empty name
deriving Repr, DecidableEq

def splitSlash (s : List UInt8) : List Name :=
  s.foldr (fun b acc => if b == 47 then [] :: acc else match acc with
    | [] => [[b]]
    | x :: r => (b :: x) :: r) [[]]

/-- a method of `*os.Root` applied to a name: the empty name is invalid, an absolute name escapes -/
def openName (fs : FS) (root : Loc) (follow : Bool) (name : List UInt8) : OpenRes :=
  if name.isEmpty then .invalid
  else if name.head? == some 47 then .res .escapes
  else .res (resolve fs root follow 4096 root (splitSlash name))

end RootFs
