import RsyncModel.Delete
/-! Bisection (`sort.Search`), and what `C09.survives_exactly` (what survives `--delete`) needs about ancestors. -/
namespace Delete
open Walk

/-- `sort.Search`'s contract: for a predicate that is monotone on `[lo, hi)` (false…false true…true)
the bisection returns the boundary. -/
theorem search_spec (f : Nat → Bool) (lo hi : Nat) (hle : lo ≤ hi)
    (hmono : ∀ i j, lo ≤ i → i ≤ j → j < hi → f i = true → f j = true) :
    lo ≤ search f lo hi ∧ search f lo hi ≤ hi ∧
    (∀ i, lo ≤ i → i < search f lo hi → f i = false) ∧
    (∀ i, search f lo hi ≤ i → i < hi → f i = true) := by
  induction lo, hi using search.induct f with
  | case1 lo hi hlt m hf ih =>
    have hm : m = (lo + hi) / 2 := rfl
    rw [search, dif_pos hlt]; simp only [← hm, hf, if_true]
    obtain ⟨a, b, c, d⟩ := ih (by omega) (fun i j h1 h2 h3 h4 => hmono i j h1 h2 (by omega) h4)
    refine ⟨a, by omega, c, fun i h1 h2 => ?_⟩
    by_cases hi' : i < m
    · exact d i h1 hi'
    · exact hmono m i (by omega) (by omega) h2 hf
  | case2 lo hi hlt m hf ih =>
    have hf' : f m = false := by simpa using hf
    have hm : m = (lo + hi) / 2 := rfl
    rw [search, dif_pos hlt]; simp only [← hm, hf', Bool.false_eq_true, if_false]
    obtain ⟨a, b, c, d⟩ := ih (by omega) (fun i j h1 h2 h3 h4 => hmono i j (by omega) h2 h3 h4)
    refine ⟨by omega, b, fun i h1 h2 => ?_, d⟩
    by_cases hi' : i ≤ m
    · cases hfi : f i
      · rfl
      · exact absurd (hmono i m h1 hi' (by omega) hfi) hf
    · exact c i (by omega) h2
  | case3 lo hi hlt =>
    rw [search, dif_neg hlt]
    exact ⟨Nat.le_refl _, hle, fun i h1 h2 => by omega, fun i h1 h2 => by omega⟩

def gone (removed : List Path) (p : Path) : Prop := ∃ r ∈ removed, r = p ∨ under r p = true

theorem under_trans {a b c : Path} (h1 : under a b = true) (h2 : under b c = true) : under a c = true := by
  simp only [under, Bool.and_eq_true, decide_eq_true_eq] at *
  obtain ⟨p1, l1⟩ := h1
  obtain ⟨p2, l2⟩ := h2
  refine ⟨?_, by omega⟩
  rw [List.isPrefixOf_iff_prefix] at *
  exact List.IsPrefix.trans p1 p2

/-- among the unlisted ancestors-or-self of `p` there is a topmost one -/
theorem topmost_unlisted (listed : Path → Bool) (p : Path) : ∀ (n : Nat) (q : Path), q.length ≤ n →
    (q = p ∨ under q p = true) → q ≠ [] → listed q = false →
    ∃ q0, (q0 = p ∨ under q0 p = true) ∧ q0 ≠ [] ∧ listed q0 = false ∧
      ∀ x, under x q0 = true → x ≠ [] → listed x = true := by
  intro n
  induction n with
  | zero => intro q hl _ hne _; exact absurd (List.eq_nil_of_length_eq_zero (by omega)) hne
  | succ n ih =>
    intro q hl hq hne hun
    by_cases hall : ∀ x, under x q = true → x ≠ [] → listed x = true
    · exact ⟨q, hq, hne, hun, hall⟩
    · obtain ⟨x, hx, hxne, hxl⟩ : ∃ x, under x q = true ∧ x ≠ [] ∧ listed x = false := by
        simpa only [Classical.not_forall, Classical.not_imp, Bool.not_eq_true, exists_prop] using hall
      have hxlen : x.length ≤ n := by
        simp only [under, Bool.and_eq_true, decide_eq_true_eq] at hx; omega
      have hxp : x = p ∨ under x p = true := by
        rcases hq with rfl | hq
        · exact Or.inr hx
        · exact Or.inr (under_trans hx hq)
      exact ih x hxlen hxp hxne hxl

end Delete
