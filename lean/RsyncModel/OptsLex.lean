import RsyncModel.Opts
/-! Lexer lemmas about an arbitrary table of rows.
(a) Arguments that name no-argument options lex to the rows of those options: a whole `--name` (`lexArg_long`,
`lex_longs`), a bundle `-<letters>` (`lexArg_letters`), argument by argument (`lex_cons`). `lex_serverOptions` (in
`OptsSpec`) applies them to the list `ServerOptions` renders, `C20.lex_server_daemon` to a line that starts
`--server --daemon`.
(b) What a token can be, whatever the arguments: an option token carries a row of the table (`LTok.from`, `lex_from`).
`C20.parse_server_daemon` hands this to the invariant of the daemon loop (`runDaemon_keeps` in `OptsDaemon`). -/
namespace Opts
open Gen.OptTable

def LTok.clean : LTok → Bool
  | .opt r a => noArg r.kind && a.isEmpty
  | _ => false

theorem cutEq_noeq (a : Str) (h : '=' ∉ a) : cutEq a = (a, [], false) := by
  induction a with
  | nil => rfl
  | cons c cs ih =>
    have hc : c ≠ '=' := fun e => h (by simp [e])
    have hcs : '=' ∉ cs := fun e => h (by simp [e])
    simp [cutEq, hc, ih hcs]

def plainRow (r : Row) : Bool := r.kind != .other && noArg r.kind

theorem plainRow_iff (r : Row) : plainRow r = true ↔ (r.kind == .other) = false ∧ noArg r.kind = true := by
  simp [plainRow]

def shortRow (rows : List Row) (c : Char) : Option Row := (findShort rows c).filter plainRow

def longRow (rows : List Row) (a : Str) : Option Row :=
  match a with
  | '-' :: '-' :: name => if name.contains '=' then none else (findLong rows name).filter plainRow
  | _ => none

theorem lexShorts_clean (rows : List Row) (cs : Str) (next : Option Str)
    (hne : '=' ∉ cs) (rs : List Row) (h : cs.map (shortRow rows) = rs.map some) :
    lexShorts rows cs next = (rs.map (fun r => .opt r []), false) := by
  induction cs generalizing rs with
  | nil => cases rs with
    | nil => rfl
    | cons _ _ => cases h
  | cons c cs ih =>
    cases rs with
    | nil => cases h
    | cons r rs =>
      simp only [List.map_cons, List.cons.injEq, shortRow, Option.filter_eq_some_iff, plainRow_iff] at h
      obtain ⟨⟨hf, hko, hna⟩, hrest⟩ := h
      have hhead : (cs.head? == some '=') = false := by
        cases cs with
        | nil => rfl
        | cons d ds => simpa using fun e : d = '=' => hne (by simp [e])
      simp [lexShorts, hf, hko, hna, hhead, ih (fun e => hne (List.mem_cons_of_mem _ e)) rs hrest]

/-- `hlong`: `lexArg` tries what follows a single dash as the name of a long option before it reads letters -/
theorem lexArg_letters (rows : List Row) (ls : Str) (next : Option Str) (rs : List Row)
    (hne : ls ≠ []) (heq : '=' ∉ ls) (hdash : ls.head? ≠ some '-')
    (hlong : findLong rows ls = none) (h : ls.map (shortRow rows) = rs.map some) :
    lexArg rows ('-' :: ls) next = (rs.map (fun r => .opt r []), false) := by
  have hcut : cutEq ('-' :: ls) = ('-' :: ls, [], false) := cutEq_noeq _ (by simp [heq])
  have hone : (ls.head? != some '-') = true := by simpa using hdash
  simp only [lexArg, hne, hcut, List.drop_succ_cons, List.drop_zero, hone, if_true, hlong]
  simp [lexShorts_clean rows ls next heq rs h]

theorem lexArg_long (rows : List Row) (a : Str) (next : Option Str) (r : Row) (h : longRow rows a = some r) :
    lexArg rows a next = ([.opt r []], false) := by
  unfold longRow at h
  split at h
  · rename_i name
    by_cases hc : name.contains '=' = true
    · rw [if_pos hc] at h; cases h
    · rw [if_neg hc, Option.filter_eq_some_iff, plainRow_iff] at h
      obtain ⟨hf, hko, hna⟩ := h
      have hne : '=' ∉ name := by simpa using hc
      have hcut : cutEq ('-' :: '-' :: name) = ('-' :: '-' :: name, [], false) := cutEq_noeq _ (by simp [hne])
      simp [lexArg, hcut, hf, hko, hna]
  · cases h

theorem lex_cons (rows : List Row) (a : Str) (rest : List Str) (ts : List LTok)
    (h : ∀ next, lexArg rows a next = (ts, false)) : lex rows (a :: rest) = ts ++ lex rows rest := by
  simp only [lex, List.length_cons, lexN, h, Bool.false_eq_true, if_false]

theorem lex_longs (rows : List Row) (l : List Str) (rs : List Row) (h : l.map (longRow rows) = rs.map some)
    (rest : List Str) : lex rows (l ++ rest) = rs.map (fun r => .opt r []) ++ lex rows rest := by
  induction l generalizing rs with
  | nil => cases rs with
    | nil => rfl
    | cons _ _ => cases h
  | cons a l ih =>
    cases rs with
    | nil => cases h
    | cons r rs =>
      simp only [List.map_cons, List.cons.injEq] at h
      rw [List.cons_append, lex_cons rows a _ _ fun n => lexArg_long rows a n r h.1, ih rs h.2]; rfl

/-! ### where a token comes from -/

theorem findLong_some (rows : List Row) (n : Str) (r : Row) (h : findLong rows n = some r) : r ∈ rows ∧ r.long = n := by
  unfold findLong at h
  split at h
  · cases h
  · exact ⟨List.mem_of_find?_eq_some h, by simpa using List.find?_some h⟩

def LTok.from (rows : List Row) : LTok → Prop
  | .opt r _ => r ∈ rows ∧ r.kind ≠ .other
  | .unmodelled => ∃ r ∈ rows, r.kind = .other
  | _ => True

theorem lexShorts_from (rows : List Row) (cs : Str) (next : Option Str) :
    ∀ t ∈ (lexShorts rows cs next).1, t.from rows := by
  induction cs with
  | nil => simp [lexShorts]
  | cons c cs ih =>
    rw [lexShorts]
    split
    · exact List.forall_mem_singleton.mpr trivial
    next r hf =>
      have hr : r ∈ rows := List.mem_of_find?_eq_some hf
      by_cases hk : r.kind = .other
      · rw [if_pos (by simpa using hk)]; exact List.forall_mem_singleton.mpr ⟨r, hr, hk⟩
      · rw [if_neg (by simpa using hk)]
        have ho : ∀ x, (LTok.opt r x).from rows := fun _ => ⟨hr, hk⟩
        split
        · split
          · exact List.forall_mem_singleton.mpr trivial
          · exact List.forall_mem_cons.mpr ⟨ho _, ih⟩
        · split
          · exact List.forall_mem_singleton.mpr (ho _)
          · cases next
            · exact List.forall_mem_singleton.mpr trivial
            · exact List.forall_mem_singleton.mpr (ho _)

theorem lexArg_from (rows : List Row) (a : Str) (next : Option Str) :
    ∀ t ∈ (lexArg rows a next).1, t.from rows := by
  unfold lexArg
  split
  · exact List.forall_mem_singleton.mpr trivial
  next c tl =>
    -- not `split`: the other branch of this `if` is all the rest of the function, and `split` is slow on it
    by_cases hc : c ≠ '-' ∨ tl = []
    · rw [if_pos hc]; exact List.forall_mem_singleton.mpr trivial
    · rw [if_neg hc]
      simp only []
      split
      next r hf =>
        have hr := (findLong_some rows _ r hf).1
        by_cases hk : r.kind = .other
        · rw [if_pos (by simpa using hk)]; exact List.forall_mem_singleton.mpr ⟨r, hr, hk⟩
        · rw [if_neg (by simpa using hk)]
          have ho : ∀ x, (LTok.opt r x).from rows := fun _ => ⟨hr, hk⟩
          split
          · split
            · exact List.forall_mem_singleton.mpr trivial
            · exact List.forall_mem_singleton.mpr (ho _)
          · split
            · exact List.forall_mem_singleton.mpr (ho _)
            · cases next
              · exact List.forall_mem_singleton.mpr trivial
              · exact List.forall_mem_singleton.mpr (ho _)
      · split
        · exact List.forall_mem_singleton.mpr trivial
        · exact lexShorts_from rows _ next

theorem lex_from (rows : List Row) (args : List Str) : ∀ t ∈ lex rows args, t.from rows := by
  unfold lex
  generalize args.length = n
  induction n generalizing args with
  | zero => simp [lexN]
  | succ n ih =>
    cases args with
    | nil => simp [lexN]
    | cons a rest =>
      intro t ht
      simp only [lexN, List.mem_append] at ht
      exact ht.elim (lexArg_from rows a _ t) (ih _ t)

end Opts
