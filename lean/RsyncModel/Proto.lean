/-! Message-level model of one transfer: G (generator) only sends on channel A, R (receiver) only
receives on channel B, S (sender) does any interleaving of `recvA` / `sendB` (in the Go code: read a
request, write that file's data, ...). Channels are FIFOs of capacity `ca`, `cb` units; capacity 0 is
a rendezvous (`io.Pipe`): a send and its receive are one joint step. Units are abstract (a byte, a
write call, a message) — the theorems hold for every granularity. -/
namespace Proto

inductive SAct | recvA | sendB
deriving DecidableEq

structure St where
  g  : Nat            -- units G still has to send on A
  s  : List SAct      -- what S still has to do, in order
  r  : Nat            -- units R still has to receive on B
  qa : Nat            -- units in flight on A
  qb : Nat            -- units in flight on B

def cnt (a : SAct) (l : List SAct) : Nat := (l.filter (· == a)).length

theorem cnt_cons_self (a : SAct) (l : List SAct) : cnt a (a :: l) = cnt a l + 1 := by simp [cnt]
theorem cnt_cons_ne {a b : SAct} (h : b ≠ a) (l : List SAct) : cnt a (b :: l) = cnt a l := by simp [cnt, h]

inductive Step (ca cb : Nat) : St → St → Prop
  | gSend (st : St) : 0 < st.g → st.qa < ca → Step ca cb st { st with g := st.g - 1, qa := st.qa + 1 }
  | sRecv (st : St) (s' : List SAct) : st.s = SAct.recvA :: s' → 0 < st.qa →
      Step ca cb st { st with s := s', qa := st.qa - 1 }
  | aSync (st : St) (s' : List SAct) : ca = 0 → 0 < st.g → st.s = SAct.recvA :: s' →
      Step ca cb st { st with g := st.g - 1, s := s' }
  | sSend (st : St) (s' : List SAct) : st.s = SAct.sendB :: s' → st.qb < cb →
      Step ca cb st { st with s := s', qb := st.qb + 1 }
  | rRecv (st : St) : 0 < st.r → 0 < st.qb → Step ca cb st { st with r := st.r - 1, qb := st.qb - 1 }
  | bSync (st : St) (s' : List SAct) : cb = 0 → st.s = SAct.sendB :: s' → 0 < st.r →
      Step ca cb st { st with s := s', r := st.r - 1 }

/-- both directions carry exactly what the other end will consume; queues respect capacity -/
structure Inv (ca cb : Nat) (st : St) : Prop where
  balA : st.g + st.qa = cnt SAct.recvA st.s
  balB : cnt SAct.sendB st.s + st.qb = st.r
  capA : st.qa ≤ ca
  capB : st.qb ≤ cb

def terminal (st : St) : Prop := st.g = 0 ∧ st.s = [] ∧ st.r = 0 ∧ st.qa = 0 ∧ st.qb = 0

/-- Deadlock freedom: in every consistent state that is not finished, somebody can move —
for every pair of capacities, including 0. -/
theorem progress (ca cb : Nat) (st : St) (h : Inv ca cb st) : terminal st ∨ ∃ st', Step ca cb st st' := by
  obtain ⟨balA, balB, capA, capB⟩ := h
  cases hs : st.s with
  | nil =>
    simp [hs, cnt] at balA balB
    -- S is done: nothing in flight on A; R drains B
    by_cases hq : 0 < st.qb
    · right; exact ⟨_, Step.rRecv st (by omega) hq⟩
    · left; exact ⟨by omega, hs, by omega, by omega, by omega⟩
  | cons a s' =>
    right
    cases a with
    | recvA =>
      by_cases hq : 0 < st.qa
      · exact ⟨_, Step.sRecv st s' hs hq⟩
      · -- nothing queued: G still owes at least this unit
        have hg : 0 < st.g := by
          rw [hs, cnt_cons_self] at balA; omega
        by_cases hc : ca = 0
        · exact ⟨_, Step.aSync st s' hc hg hs⟩
        · exact ⟨_, Step.gSend st hg (by omega)⟩
    | sendB =>
      by_cases hroom : st.qb < cb
      · exact ⟨_, Step.sSend st s' hs hroom⟩
      · have hr : 0 < st.r := by
          rw [hs, cnt_cons_self] at balB; omega
        by_cases hc : cb = 0
        · exact ⟨_, Step.bSync st s' hc hs hr⟩
        · exact ⟨_, Step.rRecv st hr (by omega)⟩

theorem preserve (ca cb : Nat) (st st' : St) (h : Inv ca cb st) (hstep : Step ca cb st st') : Inv ca cb st' := by
  obtain ⟨balA, balB, capA, capB⟩ := h
  cases hstep with
  | gSend hg hq => exact ⟨by dsimp only; omega, balB, by dsimp only; omega, capB⟩
  | sRecv s' hs hq =>
    rw [hs, cnt_cons_self] at balA
    rw [hs, cnt_cons_ne (by decide)] at balB
    exact ⟨by dsimp only; omega, balB, by dsimp only; omega, capB⟩
  | aSync s' hc hg hs =>
    rw [hs, cnt_cons_self] at balA
    rw [hs, cnt_cons_ne (by decide)] at balB
    exact ⟨by dsimp only; omega, balB, capA, capB⟩
  | sSend s' hs hq =>
    rw [hs, cnt_cons_ne (by decide)] at balA
    rw [hs, cnt_cons_self] at balB
    exact ⟨balA, by dsimp only; omega, capA, by dsimp only; omega⟩
  | rRecv hr hq => exact ⟨balA, by dsimp only; omega, capA, by dsimp only; omega⟩
  | bSync s' hc hs hr =>
    rw [hs, cnt_cons_ne (by decide)] at balA
    rw [hs, cnt_cons_self] at balB
    exact ⟨balA, by dsimp only; omega, capA, capB⟩

/-- a quantity every step strictly decreases: no schedule, fair or not, runs forever -/
def measure (st : St) : Nat := 2 * st.g + 2 * st.s.length + 2 * st.r + st.qa + st.qb

theorem measure_decreases (ca cb : Nat) (st st' : St) (hstep : Step ca cb st st') : measure st' < measure st := by
  cases hstep with
  | gSend hg hq => simp [measure]; omega
  | sRecv s' hs hq => simp [measure, hs]; omega
  | aSync s' hc hg hs => simp [measure, hs]; omega
  | sSend s' hs hq => simp [measure, hs]; omega
  | rRecv hr hq => simp [measure]; omega
  | bSync s' hc hs hr => simp [measure, hs]; omega

def init (prog : List SAct) : St := { g := cnt SAct.recvA prog, s := prog, r := cnt SAct.sendB prog, qa := 0, qb := 0 }

theorem init_inv (ca cb : Nat) (prog : List SAct) : Inv ca cb (init prog) :=
  ⟨by simp [init], by simp [init], by simp [init], by simp [init]⟩

/-- non-vacuity: a two-file session over rendezvous pipes is consistent and can move -/
example : ∃ st', Step 0 0 (init [SAct.recvA, SAct.sendB, SAct.sendB, SAct.recvA, SAct.sendB]) st' := by
  have := progress 0 0 _ (init_inv 0 0 [SAct.recvA, SAct.sendB, SAct.sendB, SAct.recvA, SAct.sendB])
  rcases this with h | h
  · exact absurd h.2.1 (by simp [init])
  · exact h

end Proto
