import RsyncModel.Proto
/-! # A transfer whose receiving side fails in the middle

`Proto` models the fault-free session. Here the receiving endpoint (generator G + receiver R, the
server of a push or the in-process server of a local copy) has failed: R reads no more file data, the
endpoint owes the peer an error message of `owe` units on channel A (the direction G writes to), and
closes the connection once the message is handed over. S (the sending peer) is somewhere in its
program; it aborts when it reads the error message or when the connection is closed under it.

`drain` is what the source does about the data S is still sending: with `drain = true` the failed
endpoint keeps consuming channel B (rsyncd.go: `go io.Copy(io.Discard, crd)` before the error frame
is written); with `drain = false` nobody reads B any more (the code before the repair, D31). -/
namespace ProtoFail
open Proto

structure St where
  g    : Nat           -- requests G may still send (it stops when it notices the failure)
  owe  : Nat           -- units of the error message not yet handed to channel A
  s    : List SAct     -- what S still has to do; [] = finished or aborted
  qa   : Nat           -- request units in flight on A
  errq : Nat           -- error units in flight on A, behind the requests
  qb   : Nat           -- data units in flight on B

inductive Step (drain : Bool) (ca cb : Nat) : St → St → Prop
  | gSend (st : St) : 0 < st.g → st.errq = 0 → st.qa < ca → Step drain ca cb st { st with g := st.g - 1, qa := st.qa + 1 }
  | gStop (st : St) : 0 < st.g → Step drain ca cb st { st with g := 0 }
  | errSend (st : St) : 0 < st.owe → st.qa + st.errq < ca → Step drain ca cb st { st with owe := st.owe - 1, errq := st.errq + 1 }
  | errSync (st : St) (s' : List SAct) : ca = 0 → 0 < st.owe → st.s = SAct.recvA :: s' → st.qa = 0 →
      Step drain ca cb st { st with owe := st.owe - 1, s := [] }
  | sRecv (st : St) (s' : List SAct) : st.s = SAct.recvA :: s' → 0 < st.qa → Step drain ca cb st { st with s := s', qa := st.qa - 1 }
  | sErr (st : St) (s' : List SAct) : st.s = SAct.recvA :: s' → st.qa = 0 → 0 < st.errq →
      Step drain ca cb st { st with s := [], errq := st.errq - 1 }
  | aSync (st : St) (s' : List SAct) : ca = 0 → 0 < st.g → st.errq = 0 → st.s = SAct.recvA :: s' →
      Step drain ca cb st { st with g := st.g - 1, s := s' }
  | sSend (st : St) (s' : List SAct) : st.s = SAct.sendB :: s' → st.qb < cb → Step drain ca cb st { st with s := s', qb := st.qb + 1 }
  | bSync (st : St) (s' : List SAct) : drain = true → cb = 0 → st.s = SAct.sendB :: s' → Step drain ca cb st { st with s := s' }
  | drainB (st : St) : drain = true → 0 < st.qb → Step drain ca cb st { st with qb := st.qb - 1 }
  | closed (st : St) : st.owe = 0 → st.s ≠ [] → Step drain ca cb st { st with s := [] }

/-- the state right after the failure, seen from a state of the fault-free session -/
def afterFailure (st : Proto.St) (msg : Nat) : St := ⟨st.g, msg, st.s, st.qa, 0, st.qb⟩

/-- **with draining, a failed session always moves on**: whatever the capacities (0 included),
whatever S was doing, however long the error message — as long as S has not stopped, some step is
enabled. No invariant is needed: this holds in every state. -/
theorem progress_drain (ca cb : Nat) (st : St) (h : st.s ≠ []) : ∃ st', Step true ca cb st st' := by
  cases hs : st.s with
  | nil => exact absurd hs h
  | cons a s' =>
    cases a with
    | recvA =>
      by_cases hq : 0 < st.qa
      · exact ⟨_, Step.sRecv st s' hs hq⟩
      · by_cases he : 0 < st.errq
        · exact ⟨_, Step.sErr st s' hs (by omega) he⟩
        · by_cases ho : 0 < st.owe
          · by_cases hc : ca = 0
            · exact ⟨_, Step.errSync st s' hc ho hs (by omega)⟩
            · exact ⟨_, Step.errSend st ho (by omega)⟩
          · exact ⟨_, Step.closed st (by omega) h⟩
    | sendB =>
      by_cases hroom : st.qb < cb
      · exact ⟨_, Step.sSend st s' hs hroom⟩
      · by_cases hc : cb = 0
        · exact ⟨_, Step.bSync st s' rfl hc hs⟩
        · exact ⟨_, Step.drainB st rfl (by omega)⟩

/-- every step, with or without draining, strictly decreases this quantity: no schedule runs forever -/
def measure (st : St) : Nat := 2 * st.g + 2 * st.owe + 2 * st.s.length + st.qa + st.errq + st.qb

theorem measure_decreases (drain : Bool) (ca cb : Nat) (st st' : St) (hstep : Step drain ca cb st st') :
    measure st' < measure st := by
  cases hstep with
  | gSend hg he hq => simp [measure]; omega
  | gStop hg => simp [measure]; omega
  | errSend ho hq => simp [measure]; omega
  | errSync s' hc ho hs hq => simp [measure, hs]; omega
  | sRecv s' hs hq => simp [measure, hs]; omega
  | sErr s' hs hq he => simp [measure, hs]; omega
  | aSync s' hc hg he hs => simp [measure, hs]; omega
  | sSend s' hs hq => simp [measure, hs]; omega
  | bSync s' hd hc hs => simp [measure, hs]
  | drainB hd hq => simp [measure]; omega
  | closed ho hne =>
    simp only [measure, List.length_nil]
    have : 0 < st.s.length := List.length_pos_iff.mpr hne
    omega

/-- **without draining the session can stop dead** (D31, the code before the repair): S is in the
middle of a file (`sendB`) with no room on B, nobody reads B, and the rest of the error message
cannot be handed over because A is full of its first part (the observed hang over 17-byte pipes; a
rendezvous if `ca = 0`) and S is not reading. Not finished, and no step enabled — for every capacity
of A, every message length, every rest of S's program, every backlog on B. -/
theorem no_drain_deadlock_small (ca cb msg : Nat) (s' : List SAct) (hmsg : 0 < msg) :
    ¬ ∃ st', Step false ca cb ⟨0, msg, SAct.sendB :: s', 0, ca, cb⟩ st' := by
  rintro ⟨st', h⟩
  cases h with
  | gSend hg he hq => simp at hg
  | gStop hg => simp at hg
  | errSend ho hq => simp at hq
  | errSync s'' hc ho hs hq => simp at hs
  | sRecv s'' hs hq => simp at hs
  | sErr s'' hs hq he => simp at hs
  | aSync s'' hc hg he hs => simp at hg
  | sSend s'' hs hq => simp at hq
  | bSync s'' hd hc hs => simp at hd
  | drainB hd hq => simp at hd
  | closed ho hne => simp at ho; omega

theorem no_drain_deadlock (cb msg : Nat) (s' : List SAct) (hmsg : 0 < msg) :
    ¬ ∃ st', Step false 0 cb ⟨0, msg, SAct.sendB :: s', 0, 0, cb⟩ st' :=
  no_drain_deadlock_small 0 cb msg s' hmsg

/-- that state is where a local copy is right after the receiver failed while the client writes a
file: reachable from the fault-free session by the failure alone -/
example : afterFailure ⟨0, [SAct.sendB, SAct.recvA], 1, 0, 0⟩ 1 = ⟨0, 1, [SAct.sendB, SAct.recvA], 0, 0, 0⟩ := rfl

end ProtoFail
